import Cuckoo.Proofs.Sched.Insert
import Cuckoo.Proofs.SpecMap
import Cuckoo.Proofs.Resize
/-!
Rebuild schedules: the vocabulary of the statements of `Cuckoo/Props/C02Rebuild.lean` (`insCall`, `kvOf`, `completed`,
`AllOk`, `Interleave`, `RebuildSched`); a linearization (`C01Conc.linRun`) of successful `insert` calls of pairwise
distinct, absent keys puts exactly those pairs in front of the map, and each answers `true` (`linRun_inserts`,
`rebuild_core`); schedules compose, and the sequential loop of `cuckoo_expand_simple` (`foldl rebuildStep`) is one of
them.
-/
namespace Cuckoo.Model.RebuildA
open Cuckoo Cuckoo.Model Cuckoo.Model.Conc Cuckoo.Model.Sched Cuckoo.Model.SchedA Cuckoo.Spec Cuckoo.Props.C01Conc
variable {κ ν : Type}

/-- `new_map.insert(k, v)`: `uprase_fn` with a functor that ignores the context, keeps the value of a duplicate and
never erases -/
def insCall (k : κ) (v : ν) : Props.C01Conc.Call κ ν := .uprase k v false false (fun _ w => .ret w false)

/-- the pair an inserting call is about -/
def kvOf : Props.C01Conc.Call κ ν → Option (κ × ν)
  | .uprase k v _ _ _ => some (k, v)
  | _ => none

/-- the pairs of the calls that received a final response, in the order of their final sections: the list of pairs
`calls.zip responses` filtered for `some _` responses -/
def completed (calls : List (Props.C01Conc.Call κ ν)) (resps : List (Option (Resp ν))) : List (κ × ν) :=
  (calls.zip resps).filterMap (fun p => match p.2 with | some _ => kvOf p.1 | none => none)

/-- every final response is a success (no expansion error, no exception) -/
def AllOk (resps : List (Option (Resp ν))) : Prop := ∀ r, some r ∈ resps → ∃ b cs, r = Resp.bool (.ok b) cs

/-- every final response is `true` without a functor call: the element was newly inserted -/
def AllNew (resps : List (Option (Resp ν))) : Prop := ∀ r, some r ∈ resps → r = Resp.bool (.ok true) []

theorem AllNew.cons_none {rs : List (Option (Resp ν))} (h : AllNew rs) : AllNew (none :: rs) :=
  fun x hx => (List.mem_cons.mp hx).elim (fun e => nomatch e) (h x)

theorem AllNew.cons_some {r : Resp ν} {rs : List (Option (Resp ν))} (hr : r = Resp.bool (.ok true) []) (h : AllNew rs) :
    AllNew (some r :: rs) :=
  fun x hx => (List.mem_cons.mp hx).elim (fun e => Option.some.inj e ▸ hr) (h x)

/-- executable test "internal, or answered `true` without functor call" (used to evaluate concrete schedules) -/
def isNew : Option (Resp ν) → Bool
  | none => true
  | some (.bool (.ok true) []) => true
  | _ => false

theorem allOk_of_isNew (l : List (Option (Resp ν))) (h : l.all isNew = true) : AllOk l := by
  intro r hr
  have := List.all_eq_true.mp h _ hr
  unfold isNew at this
  split at this
  · rename_i e; cases e
  · rename_i e; cases e; exact ⟨_, _, rfl⟩
  · cases this

/-- `out` is an interleaving of the lists `ls` (each list keeps its order) -/
inductive Interleave {α : Type} : List (List α) → List α → Prop
  | done (ls : List (List α)) (h : ∀ l ∈ ls, l = []) : Interleave ls []
  | step (pre post : List (List α)) (a : α) (l out : List α) :
      Interleave (pre ++ l :: post) out → Interleave (pre ++ (a :: l) :: post) (a :: out)

theorem Interleave.perm {α : Type} {ls : List (List α)} {out : List α} (h : Interleave ls out) :
    out.Perm ls.flatten := by
  induction h with
  | done ls h => rw [List.flatten_eq_nil_iff.mpr h]
  | step pre post a l out _ ih =>
    rw [List.flatten_append, List.flatten_cons, List.cons_append] at *
    exact (List.Perm.cons a ih).trans List.perm_middle.symm

theorem Interleave.cons_nil {α : Type} {ls : List (List α)} {out : List α} (h : Interleave ls out) :
    Interleave ([] :: ls) out := by
  induction h with
  | done ls h => exact .done _ fun l hl => (List.mem_cons.mp hl).elim id (h l)
  | step pre post a l out _ ih => exact .step ([] :: pre) post a l out ih

theorem Interleave.cons_append {α : Type} {ls : List (List α)} {out : List α} (l : List α) (h : Interleave ls out) :
    Interleave (l :: ls) (l ++ out) := by
  induction l with
  | nil => exact h.cons_nil
  | cons a l ih => exact .step [] ls a l _ ih

theorem Interleave.flatten {α : Type} : ∀ (ls : List (List α)), Interleave ls ls.flatten
  | [] => .done [] fun _ h => nomatch h
  | l :: ls => (Interleave.flatten ls).cons_append l

theorem completed_nil_left (resps : List (Option (Resp ν))) : completed ([] : List (Props.C01Conc.Call κ ν)) resps = [] := rfl

theorem completed_nil_right (calls : List (Props.C01Conc.Call κ ν)) : completed calls ([] : List (Option (Resp ν))) = [] := by
  unfold completed
  rw [List.zip_nil_right]
  rfl

theorem completed_cons_none (cl : Props.C01Conc.Call κ ν) (cs : List (Props.C01Conc.Call κ ν)) (rs : List (Option (Resp ν))) :
    completed (cl :: cs) (none :: rs) = completed cs rs := by
  unfold completed
  rw [List.zip_cons_cons, List.filterMap_cons]

theorem completed_cons_some (k : κ) (v : ν) (ca me : Bool) (fn : Ctx → ν → FnOut ν) (cs : List (Props.C01Conc.Call κ ν)) (r : Resp ν)
    (rs : List (Option (Resp ν))) :
    completed (Props.C01Conc.Call.uprase k v ca me fn :: cs) (some r :: rs) = (k, v) :: completed cs rs := by
  unfold completed
  rw [List.zip_cons_cons, List.filterMap_cons]
  rfl

theorem completed_append (c1 c2 : List (Props.C01Conc.Call κ ν)) (r1 r2 : List (Option (Resp ν))) (hl : c1.length = r1.length) :
    completed (c1 ++ c2) (r1 ++ r2) = completed c1 r1 ++ completed c2 r2 := by
  unfold completed
  rw [List.zip_append hl, List.filterMap_append]

theorem completed_replicate_none (cl : Props.C01Conc.Call κ ν) : ∀ (n : Nat) (cs : List (Props.C01Conc.Call κ ν)) (rs : List (Option (Resp ν))),
    completed (List.replicate n cl ++ cs) (List.replicate n none ++ rs) = completed cs rs
  | 0, _, _ => rfl
  | n + 1, cs, rs => by
    rw [List.replicate_succ, List.replicate_succ, List.cons_append, List.cons_append, completed_cons_none]
    exact completed_replicate_none cl n cs rs

variable [DecidableEq κ]

theorem specOf_ins_absent (m m1 : AMap κ ν) (k : κ) (v : ν) (r : Resp ν) (hk : m.lookup k = none)
    (hs : specOf m (insCall k v) r m1) (hok : ∃ b cs, r = Resp.bool (.ok b) cs) :
    r = Resp.bool (.ok true) [] ∧ m1 = (k, v) :: m := by
  have hspec : Props.C02.upraseSpec m k v false false (fun _ w => FnOut.ret w false) = (.ok true, [], m.add k v) :=
    Props.C02.upraseSpec_none hk v false false _
  rcases hs with ⟨e, _, he, _⟩ | ⟨h1, h2⟩
  · obtain ⟨b, cs, hb⟩ := hok
    rw [hb] at he
    cases he
  · rw [hspec] at h1 h2
    exact ⟨h1, h2⟩

theorem absent_cons {α : Type} {f : α → κ} {l : List α} {m : AMap κ ν} {k : κ} (v : ν) (hk : k ∉ l.map f)
    (hab : ∀ x ∈ l, m.lookup (f x) = none) : ∀ x ∈ l, AMap.lookup ((k, v) :: m) (f x) = none := by
  intro x hx
  rw [AMap.lookup_cons, if_neg fun e => hk (List.mem_map.mpr ⟨x, hx, e.symm⟩)]
  exact hab x hx

/-- **the linearization of a rebuild**: successful inserts of pairwise distinct keys that are absent from `m` -/
theorem linRun_inserts (calls : List (Props.C01Conc.Call κ ν)) (resps : List (Option (Resp ν))) (m m' : AMap κ ν)
    (hc : ∀ cl ∈ calls, ∃ k v, cl = insCall k v) (hok : AllOk resps) (hl : linRun m calls resps m')
    (hnd : ((completed calls resps).map Prod.fst).Nodup) (hab : ∀ p ∈ completed calls resps, m.lookup p.1 = none) :
    m' = (completed calls resps).reverse ++ m ∧ AllNew resps := by
  fun_induction linRun m calls resps m' with
  | case1 m m' => exact ⟨hl, nofun⟩
  | case2 m cl cs rs m' ih =>
    rw [completed_cons_none] at hnd hab ⊢
    obtain ⟨e1, e2⟩ := ih (fun x hx => hc x (List.mem_cons_of_mem _ hx)) (fun x hx => hok x (List.mem_cons_of_mem _ hx))
      hl hnd hab
    exact ⟨e1, e2.cons_none⟩
  | case3 m cl cs r rs m' ih =>
    obtain ⟨k, v, rfl⟩ := hc cl List.mem_cons_self
    obtain ⟨m1, hs, hl'⟩ := hl
    unfold insCall at hnd hab ⊢
    rw [completed_cons_some] at hnd hab ⊢
    rw [List.map_cons, List.nodup_cons] at hnd
    obtain ⟨hr, rfl⟩ := specOf_ins_absent m m1 k v r (hab (k, v) List.mem_cons_self) hs (hok r List.mem_cons_self)
    obtain ⟨e1, e2⟩ := ih _ (fun x hx => hc x (List.mem_cons_of_mem _ hx))
      (fun x hx => hok x (List.mem_cons_of_mem _ hx)) hl' hnd.2
      (absent_cons v hnd.1 fun p hp => hab p (List.mem_cons_of_mem _ hp))
    exact ⟨by rw [e1, List.reverse_cons, List.append_assoc]; rfl, e2.cons_some hr⟩
  | case4 => exact hl.elim

abbrev run {c : Cfg κ} (t0 : Table κ ν) (evs : List (Ev c ν)) : Table κ ν × List (Option (Resp ν)) :=
  exec t0 (evs.map (·.f))

/-- `evs` is a schedule of a (helper-thread) rebuild of `items` on the temporary map `t0`: any interleaving of sections
of `new_map.insert(k, v)` calls, in whose run every call that answers succeeds, and for every item exactly one call on
it answers (the list of answered calls, in the order of their final sections, is a rearrangement of `items`) -/
structure RebuildSched (c : Cfg κ) (items : List (κ × ν)) (t0 : Table κ ν) (evs : List (Ev c ν)) : Prop where
  calls : ∀ ev ∈ evs, ∃ k v, ev.call = insCall k v
  ok : AllOk (run t0 evs).2
  once : (completed (evs.map (·.call)) (run t0 evs).2).Perm items

theorem run_append {c : Cfg κ} (t0 : Table κ ν) (evs1 evs2 : List (Ev c ν)) :
    run t0 (evs1 ++ evs2) =
      ((run (run t0 evs1).1 evs2).1, (run t0 evs1).2 ++ (run (run t0 evs1).1 evs2).2) := by
  show exec t0 ((evs1 ++ evs2).map (·.f)) = _
  rw [List.map_append, exec_append]

theorem RebuildSched.nil (c : Cfg κ) (t0 : Table κ ν) : RebuildSched c [] t0 [] :=
  ⟨fun _ h => (List.not_mem_nil h).elim, fun _ h => (List.not_mem_nil h).elim, .refl _⟩

theorem RebuildSched.perm {c : Cfg κ} {items items' : List (κ × ν)} {t0 : Table κ ν} {evs : List (Ev c ν)}
    (h : RebuildSched c items t0 evs) (hp : items.Perm items') : RebuildSched c items' t0 evs :=
  ⟨h.calls, h.ok, h.once.trans hp⟩

theorem RebuildSched.append {c : Cfg κ} {items1 items2 : List (κ × ν)} {t0 : Table κ ν} {evs1 evs2 : List (Ev c ν)}
    (h1 : RebuildSched c items1 t0 evs1) (h2 : RebuildSched c items2 (run t0 evs1).1 evs2) :
    RebuildSched c (items1 ++ items2) t0 (evs1 ++ evs2) where
  calls := fun ev hev => (List.mem_append.mp hev).elim (h1.calls ev) (h2.calls ev)
  ok := by
    rw [run_append]
    exact fun r hr => (List.mem_append.mp hr).elim (h1.ok r) (h2.ok r)
  once := by
    rw [run_append, List.map_append,
      completed_append _ _ _ _ (by rw [exec_length, List.length_map, List.length_map])]
    exact h1.once.append h2.once

/-- a rebuild of `items` on a table that represents `m`, none of the keys being in `m`: the answered calls are put in
front of `m`, and each of them answers `true` -/
theorem rebuild_core (c : Cfg κ) (items : List (κ × ν)) (hnd : (items.map Prod.fst).Nodup) (t0 : Table κ ν)
    (m : AMap κ ν) (h : Inv c t0) (hr : Rel c t0 m) (hm : ∀ p ∈ items, m.lookup p.1 = none) (evs : List (Ev c ν))
    (hs : RebuildSched c items t0 evs) :
    Inv c (run t0 evs).1 ∧ Rel c (run t0 evs).1 ((completed (evs.map (·.call)) (run t0 evs).2).reverse ++ m) ∧
    AllNew (run t0 evs).2 := by
  obtain ⟨m', l1, l2, l3⟩ := conc_linearizable c evs t0 m h hr
  have hnd' : ((completed (evs.map (·.call)) (run t0 evs).2).map Prod.fst).Nodup :=
    ((hs.once.map Prod.fst).nodup_iff).mpr hnd
  obtain ⟨e1, e2⟩ := linRun_inserts _ _ m m' (List.forall_mem_map.mpr hs.calls) hs.ok l1 hnd'
    (fun p hp => hm p (hs.once.mem_iff.mp hp))
  rw [e1] at l3
  exact ⟨l2, l3, e2⟩

abbrev insFn : Ctx → ν → FnOut ν := fun _ w => .ret w false

theorem finishInsert_dup_resp (c : Cfg κ) (t : Table κ ν) (k : κ) (v : ν) (b s : Nat) :
    ∃ cs, (finishInsert c t k v false false insFn (.dup b s)).2 = Resp.bool (.ok false) cs := by
  unfold finishInsert applyFn
  simp only
  split
  · exact ⟨_, rfl⟩
  · exact ⟨_, rfl⟩

theorem replicate_map_call (c : Cfg κ) (call : Props.C01Conc.Call κ ν) (l : List (Section κ ν)) (hall : AllSec c call l) :
    ∀ ev ∈ mkEvs c call l hall, ev.call = call := by
  intro ev hev
  have h1 : ev.call ∈ (mkEvs c call l hall).map (·.call) := List.mem_map_of_mem hev
  rw [mkEvs_call] at h1
  exact (List.mem_replicate.mp h1).2

/-- a run of sections of one `insert(k, v)` in which only the last answers, with a success, is a rebuild schedule of
that one item -/
theorem done_sched {c : Cfg κ} {k : κ} {v : ν} {l : List (Section κ ν)} {t : Table κ ν} {r : Table κ ν × Resp ν}
    (hall : AllSec c (insCall k v) l) (hd : Done t l r) (hok : ∃ b cs, r.2 = Resp.bool (.ok b) cs) :
    RebuildSched c [(k, v)] t (mkEvs c (insCall k v) l hall) ∧ (run t (mkEvs c (insCall k v) l hall)).1 = r.1 ∧
    some r.2 ∈ (run t (mkEvs c (insCall k v) l hall)).2 := by
  obtain ⟨n, hl, hn⟩ := hd.length
  have hrun : run t (mkEvs c (insCall k v) l hall) = (r.1, List.replicate n none ++ [some r.2]) := by
    show exec t ((mkEvs c (insCall k v) l hall).map (·.f)) = _
    rw [mkEvs_f, hn]
  rw [hrun]
  refine ⟨⟨fun ev hev => ⟨k, v, replicate_map_call c _ l hall ev hev⟩, ?_, ?_⟩, rfl,
    List.mem_append_right _ List.mem_cons_self⟩
  · rw [hrun]
    intro x hx
    rcases List.mem_append.mp hx with e | e
    · cases (List.mem_replicate.mp e).2
    · cases List.mem_singleton.mp e
      exact hok
  · rw [hrun, mkEvs_call, hl, List.replicate_succ', completed_replicate_none]
    exact .refl _

/-- one `new_map.insert(k, v)` of an absent key, run alone, is a rebuild schedule of that item; the duplicate branch of
`rebuildStep` is not taken -/
theorem one_insert_sched (c : Cfg κ) (fuel : Nat) (nm : Table κ ν) (m : AMap κ ν) (k : κ) (v : ν)
    (h : Inv c nm) (hr : Rel c nm m) (hk : m.lookup k = none) (nm1 : Table κ ν) (pos : InsPos)
    (hins : insertLoop c false fuel nm k = (nm1, .ok pos)) :
    ∃ b s evs, pos = .free b s ∧ RebuildSched c [(k, v)] nm evs ∧ (run nm evs).1 = nm1.addTo c b s ⟨c.tag k, k, v⟩ ∧
      Inv c (run nm evs).1 ∧ Rel c (run nm evs).1 ((k, v) :: m) := by
  have hd := ins_sched c k v false false insFn fuel nm (by rw [hins]; exact fun e => nomatch e)
  rw [hins] at hd
  have hok : ∃ b cs, (fin c k v false false insFn (nm1, .ok pos)).2 = Resp.bool (.ok b) cs := by
    cases pos with
    | free b s => exact ⟨true, [], rfl⟩
    | dup b s => exact ⟨false, finishInsert_dup_resp c nm1 k v b s⟩
  obtain ⟨hs, e1, hmem⟩ := done_sched (insSched_all c k v false false insFn fuel nm) hd hok
  obtain ⟨i1, r1, hnew⟩ := rebuild_core c [(k, v)] (List.pairwise_singleton _ _) nm m h hr
    (List.forall_mem_singleton.mpr hk) _ hs
  rw [List.perm_singleton.mp hs.once] at r1
  cases pos with
  | free b s => exact ⟨b, s, _, rfl, hs, e1, i1, r1⟩
  | dup b s =>
    obtain ⟨cs, hcs⟩ := finishInsert_dup_resp c nm1 k v b s
    cases hcs.symm.trans (hnew _ hmem)

/-- the loop `for each element of the old array: new_map.insert(key, value)` of `cuckoo_expand_simple`, run by one
thread and ending without exception, is the run of a rebuild schedule of the elements -/
theorem seq_rebuild_sched (c : Cfg κ) (fuel : Nat) (L : List (Slot κ ν)) (nm : Table κ ν) (m : AMap κ ν)
    (h : Inv c nm) (hr : Rel c nm m) (hnd : (L.map (·.key)).Nodup) (hab : ∀ sl ∈ L, m.lookup sl.key = none)
    (nmF : Table κ ν) (hf : L.foldl (rebuildStep c (insertLoop c false fuel)) (nm, .ok ()) = (nmF, .ok ())) :
    ∃ evs : List (Ev c ν), RebuildSched c (L.map fun sl => (sl.key, sl.val)) nm evs ∧ (run nm evs).1 = nmF := by
  induction L generalizing nm m with
  | nil =>
    cases hf
    exact ⟨[], .nil c _, rfl⟩
  | cons sl L ih =>
    rw [List.foldl_cons, Rz.rebuildStep_ok] at hf
    rw [List.map_cons, List.nodup_cons] at hnd
    generalize hins : insertLoop c false fuel nm sl.key = r at hf
    obtain ⟨nm1, pos | e⟩ := r
    · obtain ⟨b, s, evs1, rfl, hs1, e1, i1, r1⟩ :=
        one_insert_sched c fuel nm m sl.key sl.val h hr (hab sl List.mem_cons_self) nm1 pos hins
      obtain ⟨evs2, hs2, e2⟩ := ih _ _ i1 r1 hnd.2
        (absent_cons sl.val hnd.1 fun x hx => hab x (List.mem_cons_of_mem _ hx)) (e1 ▸ hf)
      exact ⟨evs1 ++ evs2, hs1.append hs2, by rw [run_append]; exact e2⟩
    · dsimp only at hf
      rw [Rz.foldl_rebuild_err] at hf
      cases hf

end Cuckoo.Model.RebuildA
