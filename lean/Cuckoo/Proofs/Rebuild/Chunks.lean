import Cuckoo.Props.C02Par
import Cuckoo.Proofs.Resize
import Cuckoo.Proofs.Iter
/-!
The items of a helper-thread rebuild: the elements of a bucket array listed bucket by bucket, the work lists of the
chunks handed out by `parallel_exec` (`splitWork`) cover them; in a fully migrated table they are the abstract map.
-/
namespace Cuckoo.Model.RebuildA
open Cuckoo Cuckoo.Model Cuckoo.Spec
variable {κ ν : Type}

def kv (sl : Slot κ ν) : κ × ν := (sl.key, sl.val)

theorem map_fst_kv (L : List (Slot κ ν)) : (L.map kv).map Prod.fst = L.map (·.key) := List.map_map

/-- the occupied slots of bucket `b`, in slot order -/
def bucketElems (S : Nat) (st : Store κ ν) (b : Nat) : List (Slot κ ν) :=
  (List.range S).filterMap (fun s => st.get S b s)

/-- the work list of one chunk `[start, end)` of bucket indices: its elements, bucket by bucket -/
def chunkItems (S : Nat) (st : Store κ ν) (ch : Nat × Nat) : List (κ × ν) :=
  (chunkIdx ch).flatMap (fun b => (bucketElems S st b).map kv)

theorem range_mul (S : Nat) : ∀ nb : Nat,
    List.range (nb * S) = (List.range nb).flatMap (fun b => (List.range S).map (fun s => b * S + s))
  | 0 => by simp
  | n + 1 => by
    rw [Nat.succ_mul, List.range_add, range_mul S n, List.range_succ, List.flatMap_append, List.flatMap_singleton]

theorem flatMap_congr_mem {α β : Type} (l : List α) (g1 g2 : α → List β) (h : ∀ a ∈ l, g1 a = g2 a) :
    l.flatMap g1 = l.flatMap g2 := by
  rw [List.flatMap_def, List.flatMap_def, List.map_congr_left h]

theorem filterMap_congr_mem {α β : Type} (l : List α) (g1 g2 : α → Option β) (h : ∀ a ∈ l, g1 a = g2 a) :
    l.filterMap g1 = l.filterMap g2 := by
  induction l with
  | nil => rfl
  | cons a l ih =>
    rw [List.filterMap_cons, List.filterMap_cons, h a List.mem_cons_self, ih (fun x hx => h x (List.mem_cons_of_mem _ hx))]

theorem elems_by_bucket (S : Nat) (st : Store κ ν) (nb : Nat) (hsz : st.cells.size = nb * S) :
    st.elems = (List.range nb).flatMap (bucketElems S st) := by
  unfold Store.elems
  rw [toList_by_index st.cells none, hsz, range_mul, List.map_flatMap, List.filterMap_flatMap]
  apply flatMap_congr_mem
  intro b _
  unfold bucketElems
  rw [List.map_map, List.filterMap_map]
  apply filterMap_congr_mem
  intro s hs
  have hs' : s < S := List.mem_range.mp hs
  simp only [Function.comp, id, Store.get, hs', if_true]

/-- **the chunks' work lists, concatenated, are the elements of the array** (every element is handed to exactly one
thread) -/
theorem chunks_cover (S : Nat) (st : Store κ ν) (nb workers : Nat) (hsz : st.cells.size = nb * S) :
    ((splitWork 0 nb workers).map (chunkItems S st)).flatten = st.elems.map kv := by
  rw [← List.flatMap_def]
  unfold chunkItems
  rw [← List.flatMap_assoc, Props.C02Par.splitWork_partition 0 nb workers (Nat.zero_le _), Nat.sub_zero,
    ← List.range_eq_range', elems_by_bucket S st nb hsz, List.map_flatMap]

theorem elems_keys_nodup {c : Cfg κ} {t : Table κ ν} (h : Inv c t) : ((t.cur.elems.map kv).map Prod.fst).Nodup := by
  rw [map_fst_kv]
  unfold List.Nodup
  rw [List.pairwise_map]
  exact Store.elems_pairwise h.S_pos _ (Rz.inv_curUniq h)

theorem elems_represent (c : Cfg κ) (t : Table κ ν) (m : AMap κ ν) (h : Inv c t) (hr : Rel c t m)
    (ha : AllMig t) (k : κ) (v : ν) : (k, v) ∈ m ↔ ∃ sl ∈ t.cur.elems, sl.key = k ∧ sl.val = v := by
  have hlive : ∀ sl, t.Live c sl ↔ sl ∈ t.cur.elems := fun sl =>
    (ha.live_iff_cur sl).trans (Store.mem_elems h.S_pos t.cur sl).symm
  rw [hr.pairs]
  constructor
  · rintro ⟨tag, hl⟩
    exact ⟨_, (hlive _).mp hl, rfl, rfl⟩
  · rintro ⟨sl, hsl, rfl, rfl⟩
    exact ⟨sl.tag, (hlive sl).mpr hsl⟩

end Cuckoo.Model.RebuildA
