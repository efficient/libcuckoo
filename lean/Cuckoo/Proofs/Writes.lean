import Cuckoo.Proofs.Cell
import Cuckoo.Model.Resize
/-!
The write trace of `move_bucket` and of the loops over it: the migration functions are left folds of a list of writes
over the current array; the targets and sources of the writes are characterised once, here.
-/
namespace Cuckoo.Model
open Cuckoo
variable {κ ν : Type}

/-- the test `move_bucket` performs on one element -/
def mvCond (c : Cfg κ) (ohp nhp b nb : Nat) (k : κ) : Prop :=
  (b = c.i1 ohp k ∧ c.i1 nhp k = nb) ∨ (b = c.i2 ohp k ∧ c.i2 nhp k = nb)

/-- one write into a bucket array: target bucket, target slot, the element constructed there -/
abbrev Write (κ ν : Type) := Nat × Nat × Slot κ ν

def applyW (S : Nat) (st : Store κ ν) (w : Write κ ν) : Store κ ν := st.set S w.1 w.2.1 (some w.2.2)

def Write.Apart (w w' : Write κ ν) : Prop := ¬ (w.1 = w'.1 ∧ w.2.1 = w'.2.1)

/-- the writes of `moveBucket.go`, in order (they depend on the old array only) -/
def mvWrites (c : Cfg κ) (old : Store κ ν) (nhp b : Nat) : Nat → Nat → Nat → List (Write κ ν)
  | _, 0, _ => []
  | s, fuel + 1, ns =>
    match old.get c.S b s with
    | none => mvWrites c old nhp b (s + 1) fuel ns
    | some sl =>
      if (b = c.i1 old.hp sl.key ∧ c.i1 nhp sl.key = b + 2 ^ old.hp) ∨
         (b = c.i2 old.hp sl.key ∧ c.i2 nhp sl.key = b + 2 ^ old.hp) then
        (b + 2 ^ old.hp, ns, sl) :: mvWrites c old nhp b (s + 1) fuel (ns + 1)
      else
        (b, s, sl) :: mvWrites c old nhp b (s + 1) fuel ns

theorem moveBucket_go_eq_fold (c : Cfg κ) (old : Store κ ν) (nhp b : Nat) :
    ∀ (fuel s ns : Nat) (cur : Store κ ν),
      moveBucket.go c old b old.hp nhp (b + 2 ^ old.hp) s fuel ns cur =
        (mvWrites c old nhp b s fuel ns).foldl (applyW c.S) cur := by
  intro fuel
  induction fuel with
  | zero => intro s ns cur; rfl
  | succ fuel ih =>
    intro s ns cur
    unfold moveBucket.go mvWrites
    cases old.get c.S b s with
    | none => exact ih (s + 1) ns cur
    | some sl =>
      simp only []
      split
      · rw [List.foldl_cons]; exact ih _ _ _
      · rw [List.foldl_cons]; exact ih _ _ _

theorem moveBucket_eq_fold (c : Cfg κ) (old cur : Store κ ν) (b : Nat) :
    moveBucket c old cur b = (mvWrites c old cur.hp b 0 c.S 0).foldl (applyW c.S) cur :=
  moveBucket_go_eq_fold c old cur.hp b c.S 0 0 cur

theorem fold_hp (S : Nat) (ws : List (Write κ ν)) (st : Store κ ν) : (ws.foldl (applyW S) st).hp = st.hp := by
  induction ws generalizing st with
  | nil => rfl
  | cons w ws ih => rw [List.foldl_cons, ih]; rfl

theorem fold_size (S : Nat) (ws : List (Write κ ν)) (st : Store κ ν) :
    (ws.foldl (applyW S) st).cells.size = st.cells.size := by
  induction ws generalizing st with
  | nil => rfl
  | cons w ws ih => rw [List.foldl_cons, ih]; exact Store.set_size _ _ _ _ _

theorem fold_get_untouched (S : Nat) (ws : List (Write κ ν)) (st : Store κ ν) (b s : Nat)
    (hs : ∀ w ∈ ws, w.2.1 < S) (hne : ∀ w ∈ ws, ¬ (b = w.1 ∧ s = w.2.1)) :
    (ws.foldl (applyW S) st).get S b s = st.get S b s := by
  induction ws generalizing st with
  | nil => rfl
  | cons w ws ih =>
    rw [List.foldl_cons, ih _ (fun w' h => hs w' (List.mem_cons_of_mem _ h))
      (fun w' h => hne w' (List.mem_cons_of_mem _ h))]
    exact Store.get_set_other S st w.1 w.2.1 b s _ (hs w List.mem_cons_self) (hne w List.mem_cons_self)

/-- the conditions under which a list of writes is a list of constructions: targets inside the array, empty at the
start, pairwise different -/
structure Constructs (S : Nat) (st : Store κ ν) (ws : List (Write κ ν)) : Prop where
  size : st.cells.size = 2 ^ st.hp * S
  slot : ∀ w ∈ ws, w.2.1 < S
  bucket : ∀ w ∈ ws, w.1 < 2 ^ st.hp
  empty : ∀ w ∈ ws, st.get S w.1 w.2.1 = none
  apart : ws.Pairwise Write.Apart

namespace Constructs
variable {S : Nat} {ws : List (Write κ ν)}

theorem inb {st : Store κ ν} (h : Constructs S st ws) : ∀ w ∈ ws, w.1 * S + w.2.1 < st.cells.size := fun w hw => by
  rw [h.size]; exact flat_lt (h.bucket w hw) (h.slot w hw)

theorem hits_empty {st : Store κ ν} (h : Constructs S st ws) :
    ∀ pre w post, ws = pre ++ w :: post → (pre.foldl (applyW S) st).get S w.1 w.2.1 = none := by
  rintro pre w post rfl
  rw [fold_get_untouched S pre st w.1 w.2.1 (fun w' hw' => h.slot w' (List.mem_append_left _ hw'))
    (fun w' hw' e => (List.pairwise_append.mp h.apart).2.2 w' hw' w List.mem_cons_self ⟨e.1.symm, e.2.symm⟩)]
  exact h.empty w (List.mem_append_right _ List.mem_cons_self)

theorem tail {st : Store κ ν} {a : Write κ ν} (h : Constructs S st (a :: ws)) : Constructs S (applyW S st a) ws := by
  have ha := List.pairwise_cons.mp h.apart
  refine ⟨by rw [applyW, Store.set_size, Store.set_hp]; exact h.size, fun w hw => h.slot w (List.mem_cons_of_mem _ hw),
    fun w hw => h.bucket w (List.mem_cons_of_mem _ hw), fun w hw => ?_, ha.2⟩
  rw [applyW, Store.get_set_other _ _ _ _ _ _ _ (h.slot a List.mem_cons_self)
    (fun e => ha.1 w hw ⟨e.1.symm, e.2.symm⟩)]
  exact h.empty w (List.mem_cons_of_mem _ hw)

theorem get_written : ∀ {st : Store κ ν}, Constructs S st ws →
    ∀ w ∈ ws, (ws.foldl (applyW S) st).get S w.1 w.2.1 = some w.2.2 := by
  induction ws with
  | nil => intro st _ w hw; cases hw
  | cons a ws ih =>
    intro st h w hw
    rw [List.foldl_cons]
    rcases List.mem_cons.mp hw with rfl | hmem
    · rw [fold_get_untouched S ws _ w.1 w.2.1 h.tail.slot (List.pairwise_cons.mp h.apart).1]
      exact Store.get_set_same S st w.1 w.2.1 _ (h.slot w List.mem_cons_self) (h.inb w List.mem_cons_self)
    · exact ih h.tail w hmem

end Constructs

theorem Constructs.count {S : Nat} {ws : List (Write κ ν)} :
    ∀ {st : Store κ ν}, Constructs S st ws → (ws.foldl (applyW S) st).count = st.count + ws.length := by
  induction ws with
  | nil => intro st _; rfl
  | cons a ws ih =>
    intro st h
    have : (applyW S st a).count = st.count + 1 := by
      simpa [applyW, h.empty a List.mem_cons_self] using
        Store.count_set S st a.1 a.2.1 (some a.2.2) (h.slot a List.mem_cons_self) (h.inb a List.mem_cons_self)
    rw [List.foldl_cons, List.length_cons, ih h.tail, this, Nat.add_assoc, Nat.add_comm 1]

theorem fold_get {S : Nat} {ws : List (Write κ ν)} {st : Store κ ν} (h : Constructs S st ws) (b s : Nat)
    (sl : Slot κ ν) :
    (ws.foldl (applyW S) st).get S b s = some sl ↔ (b, s, sl) ∈ ws ∨ st.get S b s = some sl := by
  by_cases hex : ∃ w ∈ ws, b = w.1 ∧ s = w.2.1
  · obtain ⟨w, hw, rfl, rfl⟩ := hex
    rw [h.get_written w hw, h.empty w hw]
    constructor
    · intro e; cases e; exact Or.inl hw
    · rintro (hm | hm)
      · have := h.get_written _ hm
        rw [h.get_written w hw] at this
        exact this
      · cases hm
  · have hne : ∀ w ∈ ws, ¬ (b = w.1 ∧ s = w.2.1) := fun w hw e => hex ⟨w, hw, e⟩
    rw [fold_get_untouched S ws st b s h.slot hne]
    constructor
    · exact Or.inr
    · rintro (hm | hm)
      · exact absurd ⟨rfl, rfl⟩ (hne _ hm)
      · exact hm

theorem eq_of_pairwise_ne {α β : Type} {f : α → β} {l : List α} (h : l.Pairwise (fun a a' => f a ≠ f a'))
    {x y : α} (hx : x ∈ l) (hy : y ∈ l) (e : f x = f y) : x = y := by
  have := List.Pairwise.forall_of_forall_of_flip (R := fun a a' => a = a' ∨ f a ≠ f a') (fun _ _ => Or.inl rfl)
    (h.imp Or.inr) (h.imp (fun hne => Or.inr (Ne.symm hne))) hx hy
  exact this.resolve_right (fun hne => hne e)

theorem mvWrites_elems (c : Cfg κ) (old : Store κ ν) (nhp b : Nat) (fuel s ns : Nat) :
    (mvWrites c old nhp b s fuel ns).map (·.2.2) =
      (List.range' s fuel).filterMap (fun s => old.get c.S b s) := by
  fun_induction mvWrites c old nhp b s fuel ns with
  | case1 => rfl
  | case2 s fuel ns hg ih => rw [List.range'_succ, List.filterMap_cons, hg]; exact ih
  | case3 s fuel ns sl hg hc ih => rw [List.range'_succ, List.filterMap_cons, hg, List.map_cons, ih]
  | case4 s fuel ns sl hg hc ih => rw [List.range'_succ, List.filterMap_cons, hg, List.map_cons, ih]

/-- every write copies an occupied cell `s'` of old bucket `b`: an element that stays goes to `(b, s')`, one that goes
up goes to a slot of bucket `b + 2^hp` from `ns` on and not beyond `s'` -/
theorem mvWrites_src (c : Cfg κ) (old : Store κ ν) (nhp b : Nat) (s fuel ns : Nat) (hns : ns ≤ s) :
    ∀ w ∈ mvWrites c old nhp b s fuel ns,
      ∃ s', s ≤ s' ∧ old.get c.S b s' = some w.2.2 ∧
        ((¬ mvCond c old.hp nhp b (b + 2 ^ old.hp) w.2.2.key ∧ w.1 = b ∧ w.2.1 = s') ∨
         (mvCond c old.hp nhp b (b + 2 ^ old.hp) w.2.2.key ∧ w.1 = b + 2 ^ old.hp ∧ ns ≤ w.2.1 ∧ w.2.1 ≤ s')) := by
  fun_induction mvWrites c old nhp b s fuel ns with
  | case1 => intro w hw; cases hw
  | case2 s fuel ns _ ih =>
    intro w hw
    obtain ⟨s', h1, h⟩ := ih (Nat.le_succ_of_le hns) w hw
    exact ⟨s', Nat.le_of_succ_le h1, h⟩
  | case3 s fuel ns sl hg hc ih =>
    intro w hw
    rcases List.mem_cons.mp hw with rfl | hw
    · exact ⟨s, Nat.le_refl _, hg, Or.inr ⟨hc, rfl, Nat.le_refl _, hns⟩⟩
    · obtain ⟨s', h1, h3, h4⟩ := ih (Nat.succ_le_succ hns) w hw
      exact ⟨s', Nat.le_of_succ_le h1, h3, h4.imp id (fun ⟨p, q, r, t⟩ => ⟨p, q, Nat.le_of_succ_le r, t⟩)⟩
  | case4 s fuel ns sl hg hc ih =>
    intro w hw
    rcases List.mem_cons.mp hw with rfl | hw
    · exact ⟨s, Nat.le_refl _, hg, Or.inl ⟨hc, rfl, rfl⟩⟩
    · obtain ⟨s', h1, h⟩ := ih (Nat.le_succ_of_le hns) w hw
      exact ⟨s', Nat.le_of_succ_le h1, h⟩

theorem mvWrites_pairwise (c : Cfg κ) (old : Store κ ν) (nhp b : Nat) (s fuel ns : Nat) (hns : ns ≤ s) :
    (mvWrites c old nhp b s fuel ns).Pairwise Write.Apart := by
  have hpow : b < b + 2 ^ old.hp := Nat.lt_add_of_pos_right (Nat.two_pow_pos _)
  fun_induction mvWrites c old nhp b s fuel ns with
  | case1 => exact List.Pairwise.nil
  | case2 s fuel ns _ ih => exact ih (Nat.le_succ_of_le hns)
  | case3 s fuel ns sl _ _ ih =>
    -- an element that goes up takes slot `ns` of the upper bucket; later ones stay in `b` or take a slot after `ns`
    refine List.pairwise_cons.mpr ⟨?_, ih (Nat.succ_le_succ hns)⟩
    intro w hw ⟨(e1 : b + 2 ^ old.hp = w.1), (e2 : ns = w.2.1)⟩
    obtain ⟨s', _, _, ⟨_, h, _⟩ | ⟨_, _, h, _⟩⟩ := mvWrites_src c old nhp b (s + 1) fuel (ns + 1) (Nat.succ_le_succ hns) w hw
    · exact Nat.ne_of_gt hpow (e1.trans h)
    · exact Nat.not_succ_le_self _ (e2 ▸ h)
  | case4 s fuel ns sl _ _ ih =>
    -- an element that stays keeps slot `s`; later ones stay at a slot after `s` or go up
    refine List.pairwise_cons.mpr ⟨?_, ih (Nat.le_succ_of_le hns)⟩
    intro w hw ⟨(e1 : b = w.1), (e2 : s = w.2.1)⟩
    obtain ⟨s', h1, _, ⟨_, _, h⟩ | ⟨_, h, _⟩⟩ := mvWrites_src c old nhp b (s + 1) fuel ns (Nat.le_succ_of_le hns) w hw
    · exact Nat.not_succ_le_self s (Nat.le_trans h1 (Nat.le_of_eq (h.symm.trans e2.symm)))
    · exact Nat.ne_of_lt hpow (e1.trans h)

theorem mvWrites_complete (c : Cfg κ) (old : Store κ ν) (nhp b s : Nat) (sl : Slot κ ν)
    (hg : old.get c.S b s = some sl) : ∃ w ∈ mvWrites c old nhp b 0 c.S 0, w.2.2 = sl := by
  have hm : sl ∈ (mvWrites c old nhp b 0 c.S 0).map (·.2.2) := by
    rw [mvWrites_elems, List.mem_filterMap]
    exact ⟨s, List.mem_range'_1.mpr ⟨Nat.zero_le _, by have := (Store.get_some_lt hg).1; omega⟩, hg⟩
  exact List.mem_map.mp hm

theorem mvWrites_keys (c : Cfg κ) (old : Store κ ν) (nhp b : Nat)
    (hu : ∀ s s' sl sl', old.get c.S b s = some sl → old.get c.S b s' = some sl' → sl.key = sl'.key → s = s') :
    (mvWrites c old nhp b 0 c.S 0).Pairwise (fun w w' => w.2.2.key ≠ w'.2.2.key) := by
  rw [← List.pairwise_map (f := fun w : Write κ ν => w.2.2) (R := fun a a' => a.key ≠ a'.key),
    mvWrites_elems, List.pairwise_filterMap]
  exact (List.pairwise_lt_range' (s := 0) (n := c.S)).imp
    (fun hlt sl hg sl' hg' e => by have := hu _ _ _ _ hg hg' e; omega)

theorem mvWrites_range (c : Cfg κ) (old : Store κ ν) (nhp b : Nat) (hb : b < 2 ^ old.hp) (w : Write κ ν)
    (hw : w ∈ mvWrites c old nhp b 0 c.S 0) :
    w.2.1 < c.S ∧ w.1 < 2 ^ (old.hp + 1) ∧ (w.1 = b ∨ w.1 = b + 2 ^ old.hp) ∧
      ∃ s, old.get c.S b s = some w.2.2 := by
  rw [Nat.pow_succ]
  obtain ⟨s', _, h, ⟨_, e1, e2⟩ | ⟨_, e1, _, e2⟩⟩ := mvWrites_src c old nhp b 0 c.S 0 (Nat.le_refl _) w hw
  · exact ⟨e2 ▸ (Store.get_some_lt h).1, by omega, Or.inl e1, s', h⟩
  · exact ⟨Nat.lt_of_le_of_lt e2 (Store.get_some_lt h).1, by omega, Or.inr e1, s', h⟩

theorem mvWrites_constructs (c : Cfg κ) (old cur : Store κ ν) (b : Nat)
    (hsz : cur.cells.size = 2 ^ cur.hp * c.S) (hhp : cur.hp = old.hp + 1) (hb : b < 2 ^ old.hp)
    (he1 : ∀ s, cur.get c.S b s = none) (he2 : ∀ s, cur.get c.S (b + 2 ^ old.hp) s = none) :
    Constructs c.S cur (mvWrites c old cur.hp b 0 c.S 0) := by
  have hr := mvWrites_range c old cur.hp b hb
  refine ⟨hsz, fun w hw => (hr w hw).1, fun w hw => hhp ▸ (hr w hw).2.1, fun w hw => ?_, mvWrites_pairwise _ _ _ _ _ _ _ (Nat.le_refl _)⟩
  obtain ⟨_, _, e | e, _⟩ := hr w hw <;> rw [e]
  · exact he1 _
  · exact he2 _

/-- the writes of `moveBucket` for the buckets `b, b+step, …` (`n` of them): `migrateBuckets` uses `step = M`
(one stripe), the eager loop of `cuckoo_fast_double` uses `step = 1` (every bucket) -/
def stripeWrites (c : Cfg κ) (old : Store κ ν) (nhp step : Nat) : Nat → Nat → List (Write κ ν)
  | 0, _ => []
  | n + 1, b => mvWrites c old nhp b 0 c.S 0 ++ stripeWrites c old nhp step n (b + step)

theorem migrateBuckets_eq_fold (c : Cfg κ) (old : Store κ ν) (l : Nat) :
    ∀ (n b : Nat) (cur : Store κ ν),
      migrateBuckets c old l n b cur = (stripeWrites c old cur.hp c.M n b).foldl (applyW c.S) cur := by
  intro n
  induction n with
  | zero => intro b cur; rfl
  | succ n ih =>
    intro b cur
    unfold migrateBuckets stripeWrites
    rw [List.foldl_append, ih, moveBucket_eq_fold, fold_hp]

theorem migrateBuckets_hp (c : Cfg κ) (old : Store κ ν) (l n b : Nat) (cur : Store κ ν) :
    (migrateBuckets c old l n b cur).hp = cur.hp := by
  rw [migrateBuckets_eq_fold, fold_hp]

theorem migrateBuckets_size (c : Cfg κ) (old : Store κ ν) (l n b : Nat) (cur : Store κ ν) :
    (migrateBuckets c old l n b cur).cells.size = cur.cells.size := by
  rw [migrateBuckets_eq_fold, fold_size]

theorem fastDouble_mv_eq_fold (c : Cfg κ) (old : Store κ ν) :
    ∀ (n b : Nat) (cur : Store κ ν),
      fastDouble.mv c old n b cur = (stripeWrites c old cur.hp 1 n b).foldl (applyW c.S) cur := by
  intro n
  induction n with
  | zero => intro b cur; rfl
  | succ n ih =>
    intro b cur
    unfold fastDouble.mv stripeWrites
    rw [List.foldl_append, ih, moveBucket_eq_fold, fold_hp]

theorem stripeWrites_eq_flatMap (c : Cfg κ) (old : Store κ ν) (nhp step : Nat) : ∀ (n b : Nat),
    stripeWrites c old nhp step n b =
      (List.range n).flatMap (fun i => mvWrites c old nhp (b + i * step) 0 c.S 0) := by
  intro n
  induction n with
  | zero => intro b; rfl
  | succ n ih =>
    intro b
    unfold stripeWrites
    rw [ih, List.range_succ_eq_map, List.flatMap_cons, List.flatMap_map, Nat.zero_mul, Nat.add_zero]
    congr 2
    funext i
    rw [Nat.succ_mul, Nat.add_assoc, Nat.add_comm step]

theorem mem_stripeWrites {c : Cfg κ} {old : Store κ ν} {nhp step n b : Nat} {w : Write κ ν} :
    w ∈ stripeWrites c old nhp step n b ↔ ∃ i, i < n ∧ w ∈ mvWrites c old nhp (b + i * step) 0 c.S 0 := by
  rw [stripeWrites_eq_flatMap, List.mem_flatMap]
  simp only [List.mem_range]

/-- the old bucket a write comes from can be read off its target, so the traces of different buckets are apart -/
theorem mvWrites_bucket_mod (c : Cfg κ) (old : Store κ ν) (nhp b : Nat) (hb : b < 2 ^ old.hp)
    (w : Write κ ν) (hw : w ∈ mvWrites c old nhp b 0 c.S 0) : w.1 % 2 ^ old.hp = b := by
  obtain ⟨_, _, e | e, _⟩ := mvWrites_range c old nhp b hb w hw
  · rw [e, Nat.mod_eq_of_lt hb]
  · rw [e, Nat.add_mod_right, Nat.mod_eq_of_lt hb]

theorem stripeWrites_pairwise (c : Cfg κ) (old : Store κ ν) (nhp step : Nat) (hM : 0 < step) (n b : Nat)
    (hbd : ∀ i, i < n → b + i * step < 2 ^ old.hp) : (stripeWrites c old nhp step n b).Pairwise Write.Apart := by
  rw [stripeWrites_eq_flatMap, List.pairwise_flatMap]
  refine ⟨fun i _ => mvWrites_pairwise _ _ _ _ _ _ _ (Nat.le_refl _), List.pairwise_lt_range.imp_of_mem ?_⟩
  intro i j hi hj hij w hw w' hw' ⟨e, _⟩
  have h1 := mvWrites_bucket_mod c old nhp _ (hbd i (List.mem_range.mp hi)) w hw
  have h2 := mvWrites_bucket_mod c old nhp _ (hbd j (List.mem_range.mp hj)) w' hw'
  rw [e, h2] at h1
  have := Nat.mul_lt_mul_of_pos_right hij hM
  omega

theorem stripeWrites_elems (c : Cfg κ) (old : Store κ ν) (nhp step n b : Nat) :
    (stripeWrites c old nhp step n b).map (·.2.2) =
      ((List.range n).map (fun i => (List.range c.S).filterMap (fun s => old.get c.S (b + i * step) s))).flatten := by
  rw [stripeWrites_eq_flatMap, List.map_flatMap, List.flatMap_def]
  congr 2
  funext i
  rw [mvWrites_elems, List.range_eq_range']

theorem stripeWrites_range (c : Cfg κ) (old : Store κ ν) (nhp step n b : Nat)
    (hbd : ∀ i, i < n → b + i * step < 2 ^ old.hp) (w : Write κ ν) (hw : w ∈ stripeWrites c old nhp step n b) :
    w.2.1 < c.S ∧ w.1 < 2 ^ (old.hp + 1) ∧ ∃ i, i < n ∧ (w.1 = b + i * step ∨ w.1 = b + i * step + 2 ^ old.hp) ∧
      ∃ s, old.get c.S (b + i * step) s = some w.2.2 := by
  obtain ⟨i, hi, hwi⟩ := mem_stripeWrites.mp hw
  obtain ⟨h1, h2, h3, h4⟩ := mvWrites_range c old nhp _ (hbd i hi) w hwi
  exact ⟨h1, h2, i, hi, h3, h4⟩

theorem stripeWrites_constructs (c : Cfg κ) (old cur : Store κ ν) (step n b : Nat)
    (hsz : cur.cells.size = 2 ^ cur.hp * c.S) (hhp : cur.hp = old.hp + 1) (hstep : 0 < step)
    (hbd : ∀ i, i < n → b + i * step < 2 ^ old.hp)
    (hemp : ∀ i s, i < n → cur.get c.S (b + i * step) s = none ∧ cur.get c.S (b + i * step + 2 ^ old.hp) s = none) :
    Constructs c.S cur (stripeWrites c old cur.hp step n b) := by
  have hr := stripeWrites_range c old cur.hp step n b hbd
  refine ⟨hsz, fun w hw => (hr w hw).1, fun w hw => hhp ▸ (hr w hw).2.1, fun w hw => ?_,
    stripeWrites_pairwise c old _ step hstep n b hbd⟩
  obtain ⟨_, _, i, hi, e | e, _⟩ := hr w hw <;> rw [e]
  · exact (hemp i _ hi).1
  · exact (hemp i _ hi).2

theorem stripeWrites_complete (c : Cfg κ) (old : Store κ ν) (nhp step n b i s : Nat) (sl : Slot κ ν)
    (hi : i < n) (hg : old.get c.S (b + i * step) s = some sl) :
    ∃ w ∈ stripeWrites c old nhp step n b, w.2.2 = sl := by
  obtain ⟨w, hw, e⟩ := mvWrites_complete c old nhp _ s sl hg
  exact ⟨w, mem_stripeWrites.mpr ⟨i, hi, hw⟩, e⟩

theorem stripeWrites_keys (c : Cfg κ) (old : Store κ ν) (nhp step n b : Nat)
    (hu : ∀ i j s s' sl sl', i < n → j < n → old.get c.S (b + i * step) s = some sl →
      old.get c.S (b + j * step) s' = some sl' → sl.key = sl'.key → i = j ∧ s = s') :
    (stripeWrites c old nhp step n b).Pairwise (fun w w' => w.2.2.key ≠ w'.2.2.key) := by
  rw [stripeWrites_eq_flatMap, List.pairwise_flatMap]
  refine ⟨fun i hi => mvWrites_keys c old nhp _ (fun s s' sl sl' h h' e =>
    (hu i i s s' sl sl' (List.mem_range.mp hi) (List.mem_range.mp hi) h h' e).2),
    List.pairwise_lt_range.imp_of_mem ?_⟩
  intro i j hi hj hij w hw w' hw' e
  obtain ⟨s, _, h, _⟩ := mvWrites_src c old nhp _ 0 c.S 0 (Nat.le_refl _) w hw
  obtain ⟨s', _, h', _⟩ := mvWrites_src c old nhp _ 0 c.S 0 (Nat.le_refl _) w' hw'
  have := (hu i j s s' _ _ (List.mem_range.mp hi) (List.mem_range.mp hj) h h' e).1
  omega

/-- the loop bound of `rehash_lock`: the buckets of stripe `l` below `N` are `l, l + M, …`, `(N + M - 1 - l) / M` of
them -/
theorem stripe_iff (M N l b : Nat) (hl : l < M) :
    (∃ i, i < (N + M - 1 - l) / M ∧ b = l + i * M) ↔ b < N ∧ b % M = l := by
  have bound : ∀ i, i < (N + M - 1 - l) / M ↔ l + i * M < N := fun i => by
    rw [Nat.lt_iff_add_one_le, Nat.le_div_iff_mul_le (Nat.zero_lt_of_lt hl), Nat.succ_mul]
    omega
  constructor
  · rintro ⟨i, hi, rfl⟩
    exact ⟨(bound i).mp hi, by rw [Nat.add_mul_mod_self_right, Nat.mod_eq_of_lt hl]⟩
  · rintro ⟨hb, rfl⟩
    have e : b % M + b / M * M = b := by rw [Nat.add_comm, Nat.mul_comm]; exact Nat.div_add_mod b M
    exact ⟨b / M, (bound _).mpr (e.symm ▸ hb), e.symm⟩

theorem mem_stripeWrites_stripe {c : Cfg κ} {old : Store κ ν} {nhp l : Nat} {w : Write κ ν} (hl : l < c.M) :
    w ∈ stripeWrites c old nhp c.M ((2 ^ old.hp + c.M - 1 - l) / c.M) l ↔
      ∃ b, b < 2 ^ old.hp ∧ b % c.M = l ∧ w ∈ mvWrites c old nhp b 0 c.S 0 := by
  rw [mem_stripeWrites]
  constructor
  · rintro ⟨i, hi, h⟩
    obtain ⟨h1, h2⟩ := (stripe_iff c.M (2 ^ old.hp) l _ hl).mp ⟨i, hi, rfl⟩
    exact ⟨_, h1, h2, h⟩
  · rintro ⟨b, hb, hm, h⟩
    obtain ⟨i, hi, rfl⟩ := (stripe_iff c.M (2 ^ old.hp) l b hl).mpr ⟨hb, hm⟩
    exact ⟨i, hi, h⟩

theorem add_mod_of_dvd {M n : Nat} (hd : M ∣ n) (b : Nat) : (b + n) % M = b % M := by
  rw [Nat.add_mod, Nat.mod_eq_zero_of_dvd hd, Nat.add_zero, Nat.mod_mod]

/-- stripe stability: when `M` divides the number of old buckets, the upper half `b + 2^hp` of an old bucket is in
the stripe of `b`, so the writes of stripe `l` go to buckets of stripe `l` -/
theorem stripeWrites_stripe (c : Cfg κ) (old : Store κ ν) (nhp l : Nat) (hl : l < c.M) (hd : c.M ∣ 2 ^ old.hp)
    (w : Write κ ν) (hw : w ∈ stripeWrites c old nhp c.M ((2 ^ old.hp + c.M - 1 - l) / c.M) l) :
    w.2.1 < c.S ∧ w.1 % c.M = l := by
  obtain ⟨b, hb, hbl, hwb⟩ := (mem_stripeWrites_stripe hl).mp hw
  obtain ⟨hs, _, e | e, _⟩ := mvWrites_range c old nhp b hb w hwb <;> rw [e]
  · exact ⟨hs, hbl⟩
  · exact ⟨hs, (add_mod_of_dvd hd b).trans hbl⟩

theorem applyW_cell_congr (S : Nat) (st st' : Store κ ν) (w : Write κ ν) (k : Nat)
    (h : st.cells[k]? = st'.cells[k]?) : (applyW S st w).cells[k]? = (applyW S st' w).cells[k]? := by
  unfold applyW Store.set
  dsimp only
  rw [Array.getElem?_setIfInBounds, Array.getElem?_setIfInBounds, h]
  have hsz : k < st.cells.size ↔ k < st'.cells.size := by
    rw [← Nat.not_le, ← Nat.not_le, ← Array.getElem?_eq_none_iff, ← Array.getElem?_eq_none_iff, h]
  split
  · next e => subst e; simp only [hsz]
  · rfl

theorem fold_cell_congr (S : Nat) (ws : List (Write κ ν)) (st st' : Store κ ν) (k : Nat)
    (h : st.cells[k]? = st'.cells[k]?) :
    (ws.foldl (applyW S) st).cells[k]? = (ws.foldl (applyW S) st').cells[k]? := by
  induction ws generalizing st st' with
  | nil => exact h
  | cons w ws ih => exact ih _ _ (applyW_cell_congr S st st' w k h)

end Cuckoo.Model
