import Cuckoo.Proofs.Stripe
/-!
Bucket scans (`try_read_from_bucket`, `try_find_insert_bucket`): what a hit and a miss say about the bucket; a key absent
from both candidate buckets, both migrated, is not live; hence completeness of the two-bucket lookup (`cuckoo_find`), of
the two scans of `cuckoo_insert`, and of the duplicate re-check after a displacement (`recheckPos`).
-/
namespace Cuckoo.Model
open Cuckoo
variable {κ ν : Type}

/-- what a miss says of the slots `[lo, hi)` of bucket `b`: of well-tagged cells only, as the scans (unless `is_simple`)
compare the partial key first and pass over a cell whose tag differs -/
def NoKeyIn (c : Cfg κ) (st : Store κ ν) (b : Nat) (k : κ) (lo hi : Nat) : Prop :=
  ∀ r, lo ≤ r → r < hi → ∀ sl, st.get c.S b r = some sl → sl.tag = c.tag sl.key → sl.key ≠ k

theorem NoKeyIn.step {c : Cfg κ} {st : Store κ ν} {b : Nat} {k : κ} {s hi : Nat}
    (hs : ∀ sl, st.get c.S b s = some sl → sl.tag = c.tag sl.key → sl.key ≠ k)
    (hrest : NoKeyIn c st b k (s + 1) hi) : NoKeyIn c st b k s hi := by
  intro r h1 h2
  by_cases e : r = s
  · rw [e]; exact hs
  · exact hrest r (by omega) h2

/-- what the result of a scan of the slots `[s, hi)` that was handed the free slot `free` says: a hit holds `k`; a miss
means no well-tagged cell of the range holds `k`, and the free slot reported is the one handed in or an empty cell below
`hi` -/
def ScanPost (c : Cfg κ) (st : Store κ ν) (b : Nat) (k : κ) (s hi : Nat) (free : Option Nat) : InsScan → Prop
  | .dup r => ∃ sl, st.get c.S b r = some sl ∧ sl.key = k
  | .free f => NoKeyIn c st b k s hi ∧ ∀ x, f = some x → free = some x ∨ (x < hi ∧ st.get c.S b x = none)

theorem ScanPost.step {c : Cfg κ} {st : Store κ ν} {b : Nat} {k : κ} {s hi : Nat} {free free' : Option Nat}
    {res : InsScan} (h : ScanPost c st b k (s + 1) hi free' res) (hlt : s < hi)
    (hs : ∀ sl, st.get c.S b s = some sl → sl.tag = c.tag sl.key → sl.key ≠ k)
    (hf : ∀ x, free' = some x → free = some x ∨ (x = s ∧ st.get c.S b s = none)) :
    ScanPost c st b k s hi free res := by
  cases res with
  | dup r => exact h
  | free f =>
    refine ⟨NoKeyIn.step hs h.1, fun x hx => (h.2 x hx).elim (fun e => ?_) .inr⟩
    exact (hf x e).imp_right fun ⟨e1, e2⟩ => ⟨e1 ▸ hlt, e1 ▸ e2⟩

theorem scanGo_spec [DecidableEq κ] (c : Cfg κ) (st : Store κ ν) (b : Nat) (k : κ) (s fuel : Nat) (free : Option Nat) :
    ScanPost c st b k s (s + fuel) free (scanForInsert.go c st b k (c.tag k) s fuel free) := by
  induction fuel generalizing s free with
  | zero => exact ⟨fun r h1 h2 => by omega, fun x hx => .inl hx⟩
  | succ fuel ih =>
    rw [show s + (fuel + 1) = s + 1 + fuel from Nat.add_right_comm s fuel 1]
    have hlt : s < s + 1 + fuel := by omega
    unfold scanForInsert.go
    cases hg : st.get c.S b s with
    | none =>
      exact (ih (s + 1) (some s)).step hlt (fun _ hsl => nomatch hg.symm.trans hsl)
        fun x e => .inr ⟨(Option.some.inj e).symm, hg⟩
    | some sl =>
      dsimp only
      split
      · next hc =>
        simp at hc
        exact ⟨sl, hg, hc.2⟩
      · next hc =>
        refine (ih (s + 1) free).step hlt (fun sl' hsl ht hk => hc ?_) fun x => .inl
        cases hg.symm.trans hsl
        simp [ht, hk]

theorem scan_dup [DecidableEq κ] {c : Cfg κ} {st : Store κ ν} {b : Nat} {k : κ} {r : Nat}
    (h : scanForInsert c st b k = .dup r) : ∃ sl, st.get c.S b r = some sl ∧ sl.key = k := by
  have := scanGo_spec c st b k 0 c.S none
  rw [show scanForInsert.go c st b k (c.tag k) 0 c.S none = .dup r from h] at this
  exact this

theorem scan_free [DecidableEq κ] {c : Cfg κ} {st : Store κ ν} {b : Nat} {k : κ} {f : Option Nat}
    (h : scanForInsert c st b k = .free f) :
    NoKeyIn c st b k 0 c.S ∧ ∀ x, f = some x → x < c.S ∧ st.get c.S b x = none := by
  have := scanGo_spec c st b k 0 c.S none
  rw [show scanForInsert.go c st b k (c.tag k) 0 c.S none = .free f from h, Nat.zero_add] at this
  exact ⟨this.1, fun x hx => (this.2 x hx).resolve_left (fun e => nomatch e)⟩

/-- `try_read_from_bucket` is the duplicate check of `try_find_insert_bucket` -/
theorem findGo_eq_scanGo [DecidableEq κ] (c : Cfg κ) (st : Store κ ν) (b : Nat) (k : κ) (tag s fuel : Nat)
    (free : Option Nat) :
    findInBucket.go c st b k tag s fuel =
      match scanForInsert.go c st b k tag s fuel free with
      | .dup r => some r
      | .free _ => none := by
  induction fuel generalizing s free with
  | zero => rfl
  | succ fuel ih =>
    unfold findInBucket.go scanForInsert.go
    cases st.get c.S b s with
    | none => exact ih _ _
    | some sl =>
      dsimp only
      split
      · rfl
      · exact ih _ _

theorem findInBucket_some [DecidableEq κ] {c : Cfg κ} {st : Store κ ν} {b : Nat} {k : κ} {r : Nat}
    (h : findInBucket c st b k = some r) : ∃ sl, st.get c.S b r = some sl ∧ sl.key = k := by
  unfold findInBucket at h
  rw [findGo_eq_scanGo c st b k _ 0 c.S none] at h
  split at h
  · next e => cases h; exact scan_dup e
  · cases h

theorem findInBucket_none [DecidableEq κ] {c : Cfg κ} {st : Store κ ν} {b : Nat} {k : κ}
    (h : findInBucket c st b k = none) : NoKeyIn c st b k 0 c.S := by
  unfold findInBucket at h
  rw [findGo_eq_scanGo c st b k _ 0 c.S none] at h
  split at h
  · cases h
  · next e => exact (scan_free e).1

theorem cuckooFind_cases [DecidableEq κ] (c : Cfg κ) (st : Store κ ν) (i1 i2 : Nat) (k : κ) :
    match cuckooFind c st i1 i2 k with
    | some (b, s) => (b = i1 ∨ b = i2) ∧ ∃ sl, st.get c.S b s = some sl ∧ sl.key = k
    | none => NoKeyIn c st i1 k 0 c.S ∧ NoKeyIn c st i2 k 0 c.S := by
  unfold cuckooFind
  cases e1 : findInBucket c st i1 k with
  | some s => exact ⟨.inl rfl, findInBucket_some e1⟩
  | none =>
    cases e2 : findInBucket c st i2 k with
    | some s => exact ⟨.inr rfl, findInBucket_some e2⟩
    | none => exact ⟨findInBucket_none e1, findInBucket_none e2⟩

theorem cuckooFind_some [DecidableEq κ] {c : Cfg κ} {st : Store κ ν} {i1 i2 : Nat} {k : κ} {b s : Nat}
    (h : cuckooFind c st i1 i2 k = some (b, s)) :
    (b = i1 ∨ b = i2) ∧ ∃ sl, st.get c.S b s = some sl ∧ sl.key = k := by
  have := cuckooFind_cases c st i1 i2 k
  rw [h] at this
  exact this

theorem not_live_of_noKey {c : Cfg κ} {t : Table κ ν} {k : κ} (h : Inv c t)
    (h1 : t.unmigB c (c.i1 t.hp k) = false) (h2 : t.unmigB c (c.i2 t.hp k) = false)
    (n1 : NoKeyIn c t.cur (c.i1 t.hp k) k 0 c.S) (n2 : NoKeyIn c t.cur (c.i2 t.hp k) k 0 c.S) :
    ∀ tag v, ¬ t.Live c ⟨tag, k, v⟩ := by
  rintro tag v ⟨p, hp⟩
  cases p with
  | cur b s =>
    have hp : t.cur.get c.S b s = some ⟨tag, k, v⟩ := hp
    obtain ⟨hs, _⟩ := Store.get_some_lt hp
    obtain ⟨ht, hb⟩ := h.cur_wf.place b s _ hp
    rcases hb with e | e
    · rw [e] at hp; exact n1 s (Nat.zero_le _) hs _ hp ht rfl
    · rw [e] at hp; exact n2 s (Nat.zero_le _) hs _ hp ht rfl
  | old b s =>
    obtain ⟨o, ho, hu, hg⟩ := (at_old_some_iff c t b s _).mp hp
    rcases h.toW.old_stripe ho hu hg with e | e
    · rw [h1] at e; cases e
    · rw [h2] at e; cases e

theorem cuckooFind_spec [DecidableEq κ] (c : Cfg κ) (t : Table κ ν) (k : κ) (h : Inv c t) {hp : Nat} (hhp : t.hp = hp)
    (h1 : t.unmigB c (c.i1 hp k) = false) (h2 : t.unmigB c (c.i2 hp k) = false) :
    match cuckooFind c t.cur (c.i1 hp k) (c.i2 hp k) k with
    | some (b, s) => ∃ sl, t.cur.get c.S b s = some sl ∧ sl.key = k ∧ (b = c.i1 hp k ∨ b = c.i2 hp k)
    | none => ∀ tag v, ¬ t.Live c ⟨tag, k, v⟩ := by
  subst hhp
  have := cuckooFind_cases c t.cur (c.i1 t.hp k) (c.i2 t.hp k) k
  split at this
  · obtain ⟨hb, sl, hg, hk⟩ := this
    exact ⟨sl, hg, hk, hb⟩
  · exact not_live_of_noKey h h1 h2 this.1 this.2

theorem tryInsert_spec [DecidableEq κ] (c : Cfg κ) (t : Table κ ν) (k : κ) (h : Inv c t) {hp : Nat} (hhp : t.hp = hp)
    (h1 : t.unmigB c (c.i1 hp k) = false) (h2 : t.unmigB c (c.i2 hp k) = false) :
    match tryInsert c t.cur (c.i1 hp k) (c.i2 hp k) k with
    | .pos p => InsOK c t k p
    | .needCuckoo => ∀ tag v, ¬ t.Live c ⟨tag, k, v⟩ := by
  subst hhp
  unfold tryInsert
  cases e1 : scanForInsert c t.cur (c.i1 t.hp k) k with
  | dup s => exact ⟨.inl rfl, scan_dup e1⟩
  | free r1 =>
    cases e2 : scanForInsert c t.cur (c.i2 t.hp k) k with
    | dup s => exact ⟨.inr rfl, scan_dup e2⟩
    | free r2 =>
      obtain ⟨n1, f1⟩ := scan_free e1
      obtain ⟨n2, f2⟩ := scan_free e2
      have nl := not_live_of_noKey h h1 h2 n1 n2
      cases r1 with
      | some s =>
        obtain ⟨a, a'⟩ := f1 s rfl
        exact ⟨.inl rfl, a, a', h1, nl⟩
      | none =>
        cases r2 with
        | some s =>
          obtain ⟨a, a'⟩ := f2 s rfl
          exact ⟨.inr rfl, a, a', h2, nl⟩
        | none => exact nl

/-- where an insertion that has freed the slot `(b, s)` of one of its buckets ends: on the duplicate, if the re-check finds
one (the key may have come in while the path was searched without locks), else in that slot -/
def recheckPos [DecidableEq κ] (c : Cfg κ) (st : Store κ ν) (hpS : Nat) (k : κ) (b s : Nat) : InsPos :=
  match cuckooFind c st (c.i1 hpS k) (c.i2 hpS k) k with
  | some (b', s') => .dup b' s'
  | none => .free b s

theorem apply_recheckPos [DecidableEq κ] {α : Sort _} (f : InsPos → α) (c : Cfg κ) (st : Store κ ν) (hpS : Nat) (k : κ)
    (b s : Nat) :
    f (recheckPos c st hpS k b s) =
      match cuckooFind c st (c.i1 hpS k) (c.i2 hpS k) k with
      | some (b', s') => f (.dup b' s')
      | none => f (.free b s) := by
  unfold recheckPos
  cases cuckooFind c st (c.i1 hpS k) (c.i2 hpS k) k <;> rfl

theorem recheckPos_ok [DecidableEq κ] (c : Cfg κ) (t : Table κ ν) (k : κ) (b s : Nat) (h : Inv c t) {hpS : Nat}
    (hhp : t.hp = hpS) (u1 : t.unmigB c (c.i1 hpS k) = false) (u2 : t.unmigB c (c.i2 hpS k) = false)
    (hb : b = c.i1 hpS k ∨ b = c.i2 hpS k) (hs : s < c.S) (hfree : t.cur.get c.S b s = none) :
    InsOK c t k (recheckPos c t.cur hpS k b s) := by
  have hf := cuckooFind_spec c t k h hhp u1 u2
  subst hhp
  unfold recheckPos
  rcases hfind : cuckooFind c t.cur (c.i1 t.hp k) (c.i2 t.hp k) k with _ | ⟨b', s'⟩ <;> rw [hfind] at hf
  · exact ⟨hb, hs, hfree, hb.elim (· ▸ u1) (· ▸ u2), hf⟩
  · obtain ⟨sl, hg, hkey, hor⟩ := hf
    exact ⟨hor, sl, hg, hkey⟩

theorem recheckPos_pos [DecidableEq κ] (c : Cfg κ) (st : Store κ ν) (hpS : Nat) (k : κ) {b s : Nat}
    (hb : b = c.i1 hpS k ∨ b = c.i2 hpS k) (hs : s < c.S) :
    ((recheckPos c st hpS k b s).bkt = c.i1 hpS k ∨ (recheckPos c st hpS k b s).bkt = c.i2 hpS k) ∧
    ∀ b' s', recheckPos c st hpS k b s = .free b' s' → s' < c.S := by
  unfold recheckPos
  rcases hfind : cuckooFind c st (c.i1 hpS k) (c.i2 hpS k) k with _ | ⟨b', s'⟩
  · exact ⟨hb, fun _ _ e => by cases e; exact hs⟩
  · exact ⟨(cuckooFind_some hfind).1, fun _ _ e => nomatch e⟩

end Cuckoo.Model
