import Cuckoo.Spec.Map
/-!
The abstract map (an association list with distinct keys): `lookup` by membership (`lookup_eq_some_iff`,
`lookup_eq_none_iff`); membership, distinct keys and length through `set`, `erase`, `add`; equations between them.
-/
namespace Cuckoo.Spec
variable {κ ν : Type} [DecidableEq κ]

theorem AMap.lookup_nil (k : κ) : (([] : AMap κ ν)).lookup k = none := rfl

theorem AMap.lookup_cons (k' : κ) (v : ν) (rest : AMap κ ν) (k : κ) :
    AMap.lookup ((k', v) :: rest) k = if k' = k then some v else AMap.lookup rest k := rfl

theorem AMap.mem_of_lookup (m : AMap κ ν) (k : κ) (v : ν) (h : m.lookup k = some v) : (k, v) ∈ m := by
  induction m with
  | nil => cases h
  | cons p rest ih =>
    obtain ⟨k', w⟩ := p
    rw [AMap.lookup_cons] at h
    split at h
    · rename_i e
      cases h
      rw [e]
      exact List.mem_cons_self
    · exact List.mem_cons_of_mem _ (ih h)

omit [DecidableEq κ] in
theorem AMap.head_ne {k' k : κ} {v : ν} {rest : AMap κ ν} (hn : k' ∉ rest.map Prod.fst) (h : (k, v) ∈ rest) : k' ≠ k :=
  fun e => hn (List.mem_map.mpr ⟨(k, v), h, e.symm⟩)

theorem AMap.lookup_eq_some_iff (m : AMap κ ν) (hn : (m.map Prod.fst).Nodup) (k : κ) (v : ν) :
    m.lookup k = some v ↔ (k, v) ∈ m := by
  refine ⟨AMap.mem_of_lookup m k v, ?_⟩
  induction m with
  | nil => intro h; cases h
  | cons p rest ih =>
    obtain ⟨k', w⟩ := p
    intro h
    rw [List.map_cons, List.nodup_cons] at hn
    rw [AMap.lookup_cons]
    rcases List.mem_cons.mp h with e | e
    · cases e
      rw [if_pos rfl]
    · rw [if_neg (AMap.head_ne hn.1 e)]
      exact ih hn.2 e

theorem AMap.lookup_eq_none_iff (m : AMap κ ν) (k : κ) : m.lookup k = none ↔ ∀ v, (k, v) ∉ m := by
  induction m with
  | nil => exact ⟨fun _ v h => (nomatch h), fun _ => rfl⟩
  | cons p rest ih =>
    obtain ⟨k', w⟩ := p
    rw [AMap.lookup_cons]
    by_cases e : k' = k
    · rw [if_pos e]
      constructor
      · intro h; cases h
      · intro h
        exact absurd (by rw [e]; exact List.mem_cons_self) (h w)
    · rw [if_neg e, ih]
      constructor
      · intro h v hv
        rcases List.mem_cons.mp hv with e' | e'
        · cases e'; exact e rfl
        · exact h v e'
      · intro h v hv
        exact h v (List.mem_cons_of_mem _ hv)

theorem AMap.mem_erase (m : AMap κ ν) (k k' : κ) (v : ν) : (k', v) ∈ m.erase k ↔ ((k', v) ∈ m ∧ k' ≠ k) := by
  unfold AMap.erase
  rw [List.mem_filter]
  simp

theorem AMap.nodup_erase (m : AMap κ ν) (hn : (m.map Prod.fst).Nodup) (k : κ) : ((m.erase k).map Prod.fst).Nodup := by
  unfold AMap.erase
  exact hn.sublist (List.Sublist.map _ List.filter_sublist)

theorem AMap.erase_of_lookup_none (m : AMap κ ν) (k : κ) (h : m.lookup k = none) : m.erase k = m := by
  unfold AMap.erase
  rw [List.filter_eq_self]
  rintro ⟨a, w⟩ ha
  exact decide_eq_true fun e : a = k => (AMap.lookup_eq_none_iff m k).mp h w (e ▸ ha)

theorem AMap.length_erase_of_mem (m : AMap κ ν) (hn : (m.map Prod.fst).Nodup) (k : κ) (v : ν) (h : (k, v) ∈ m) :
    (m.erase k).length + 1 = m.length := by
  induction m with
  | nil => cases h
  | cons p rest ih =>
    obtain ⟨k', w⟩ := p
    rw [List.map_cons, List.nodup_cons] at hn
    show (List.filter _ ((k', w) :: rest)).length + 1 = rest.length + 1
    by_cases e : k' = k
    · subst e
      rw [List.filter_cons_of_neg (by simp)]
      exact congrArg (·.length + 1) (AMap.erase_of_lookup_none rest k'
        ((AMap.lookup_eq_none_iff rest k').mpr fun w hw => AMap.head_ne hn.1 hw rfl))
    · rw [List.filter_cons_of_pos (by simpa using e)]
      exact congrArg (· + 1) (ih hn.2 ((List.mem_cons.mp h).resolve_left fun e' => e (by cases e'; rfl)))

theorem AMap.mem_set (m : AMap κ ν) (k k' : κ) (v v' : ν) :
    (k', v') ∈ m.set k v ↔ (((k', v') ∈ m ∧ k' ≠ k) ∨ (k' = k ∧ v' = v ∧ ∃ w, (k, w) ∈ m)) := by
  unfold AMap.set
  rw [List.mem_map]
  constructor
  · rintro ⟨⟨a, w⟩, ha, e⟩
    by_cases hk : a = k
    · simp only [hk, if_true] at e
      cases e
      subst hk
      exact .inr ⟨rfl, rfl, w, ha⟩
    · simp only [hk, if_false] at e
      cases e
      exact .inl ⟨ha, hk⟩
  · rintro (⟨h1, h2⟩ | ⟨rfl, rfl, w, hw⟩)
    · exact ⟨(k', v'), h1, by simp [h2]⟩
    · exact ⟨(k', w), hw, by simp⟩

theorem AMap.map_fst_set (m : AMap κ ν) (k : κ) (v : ν) : (m.set k v).map Prod.fst = m.map Prod.fst := by
  unfold AMap.set
  rw [List.map_map]
  apply List.map_congr_left
  intro a _
  simp only [Function.comp]
  split
  · rename_i e; exact e.symm
  · rfl

theorem AMap.nodup_set (m : AMap κ ν) (hn : (m.map Prod.fst).Nodup) (k : κ) (v : ν) : ((m.set k v).map Prod.fst).Nodup := by
  rw [AMap.map_fst_set]; exact hn

@[simp] theorem AMap.length_set (m : AMap κ ν) (k : κ) (v : ν) : (m.set k v).length = m.length := by
  simp [AMap.set]

theorem AMap.nodup_add (m : AMap κ ν) (hn : (m.map Prod.fst).Nodup) (k : κ) (v : ν) (h : m.lookup k = none) :
    ((m.add k v).map Prod.fst).Nodup := by
  unfold AMap.add
  rw [List.map_cons, List.nodup_cons]
  refine ⟨?_, hn⟩
  intro hm
  rw [List.mem_map] at hm
  obtain ⟨⟨a, w⟩, ha, e⟩ := hm
  simp only at e
  subst e
  exact (AMap.lookup_eq_none_iff m a).mp h w ha

theorem AMap.set_eq_self (m : AMap κ ν) (k : κ) (v : ν) (h : ∀ w, (k, w) ∈ m → w = v) : m.set k v = m := by
  unfold AMap.set
  conv => rhs; rw [← List.map_id m]
  apply List.map_congr_left
  rintro ⟨a, w⟩ ha
  split
  · rename_i e
    cases e
    rw [h w ha]; rfl
  · rfl

theorem AMap.set_of_lookup_none (m : AMap κ ν) (k : κ) (v : ν) (h : m.lookup k = none) : m.set k v = m :=
  m.set_eq_self k v fun w hw => absurd hw ((AMap.lookup_eq_none_iff m k).mp h w)

theorem AMap.set_of_lookup_some (m : AMap κ ν) (hn : (m.map Prod.fst).Nodup) (k : κ) (v : ν)
    (h : m.lookup k = some v) : m.set k v = m :=
  m.set_eq_self k v fun w hw => Option.some.inj (((AMap.lookup_eq_some_iff m hn k w).mpr hw).symm.trans h)

theorem AMap.add_set (m : AMap κ ν) (k : κ) (v v' : ν) (h : m.lookup k = none) :
    (m.add k v).set k v' = m.add k v' := by
  show List.map _ ((k, v) :: m) = _
  rw [List.map_cons, if_pos rfl]
  exact congrArg _ (AMap.set_of_lookup_none m k v' h)

theorem AMap.add_erase (m : AMap κ ν) (k : κ) (v : ν) (h : m.lookup k = none) :
    (m.add k v).erase k = m := by
  show List.filter _ ((k, v) :: m) = m
  rw [List.filter_cons_of_neg (by simp)]
  exact AMap.erase_of_lookup_none m k h

theorem AMap.set_erase (m : AMap κ ν) (k : κ) (v : ν) : (m.set k v).erase k = m.erase k := by
  unfold AMap.set AMap.erase
  induction m with
  | nil => rfl
  | cons p rest ih =>
    obtain ⟨a, w⟩ := p
    rw [List.map_cons]
    by_cases e : a = k
    · simp only [e, if_true]
      rw [List.filter_cons_of_neg (by simp), List.filter_cons_of_neg (by simp), ih]
    · simp only [e, if_false]
      rw [List.filter_cons_of_pos (by simpa using e), List.filter_cons_of_pos (by simpa using e), ih]

theorem AMap.lookup_add_self (m : AMap κ ν) (k : κ) (v : ν) : (m.add k v).lookup k = some v := by
  unfold AMap.add
  rw [AMap.lookup_cons, if_pos rfl]

theorem AMap.lookup_congr_of_perm (m1 m2 : AMap κ ν) (hp : m1.Perm m2) (hn : (m1.map Prod.fst).Nodup) (k : κ) :
    m1.lookup k = m2.lookup k := by
  have hn2 : (m2.map Prod.fst).Nodup := (hp.map Prod.fst).nodup_iff.mp hn
  cases h2 : m2.lookup k with
  | some v =>
    rw [AMap.lookup_eq_some_iff m1 hn]
    exact hp.mem_iff.mpr ((AMap.lookup_eq_some_iff m2 hn2 k v).mp h2)
  | none =>
    rw [AMap.lookup_eq_none_iff] at h2 ⊢
    intro v hv
    exact h2 v (hp.mem_iff.mp hv)

omit [DecidableEq κ] in
theorem nodup_of_nodup_map {α β : Type} (f : α → β) (l : List α) (h : (l.map f).Nodup) : l.Nodup :=
  List.Pairwise.of_map f (fun _ _ hab e => hab (congrArg f e)) h

theorem AMap.perm_of_same_pairs (m1 m2 : AMap κ ν) (h1 : (m1.map Prod.fst).Nodup)
    (h2 : (m2.map Prod.fst).Nodup) (h : ∀ k v, (k, v) ∈ m1 ↔ (k, v) ∈ m2) :
    m1.Perm m2 ∧ ∀ k, m1.lookup k = m2.lookup k :=
  have hp : m1.Perm m2 :=
    (List.perm_ext_iff_of_nodup (nodup_of_nodup_map _ _ h1) (nodup_of_nodup_map _ _ h2)).mpr (fun p => h p.1 p.2)
  ⟨hp, AMap.lookup_congr_of_perm m1 m2 hp h1⟩

end Cuckoo.Spec
