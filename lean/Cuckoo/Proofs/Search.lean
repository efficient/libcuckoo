import Cuckoo.Proofs.Lock
import Cuckoo.Proofs.Scan
/-!
BFS search, path construction and path execution are internal steps (`Step`), whatever (stale) data they work from;
a successful `run_cuckoo` returns a free, locked, candidate slot.
-/
namespace Cuckoo.Model
open Cuckoo
variable {κ ν : Type}

theorem slotSearch_go_step (c : Cfg κ) (locked : Bool) (hp : Nat) (fuel : Nat) :
    ∀ (t : Table κ ν) (q : Array BSlot) (first : Nat), Inv c t → (locked = true → AllMig t) →
    Step c t (slotSearch.go c locked hp fuel t q first).1 := by
  induction fuel with
  | zero => exact fun t q first h hl => .refl h
  | succ n ih =>
    intro t q first h hl
    simp only [slotSearch.go]
    split
    · exact .refl h
    · rename_i x hx
      have s := (lockOneM_step c locked t x.bucket h hl).1
      split
      · exact s
      · exact s.trans (ih _ (q ++ _) (first+1) s.inv (s.allmig hl))

theorem slotSearch_step (c : Cfg κ) (locked : Bool) (hp : Nat) (t : Table κ ν) (i1 i2 : Nat) (h : Inv c t)
    (hl : locked = true → AllMig t) : Step c t (slotSearch c locked hp t i1 i2).1 :=
  slotSearch_go_step c locked hp _ t _ _ h hl

/-- a scan that returns a slot has looked at one: `0 < S` for any table (`Proofs/Sched` has no `Inv` to take it from) -/
theorem bfsScan_inl_pos (c : Cfg κ) (hp : Nat) (st : Store κ ν) (x r : BSlot) (h : bfsScan c hp st x = .inl r) :
    0 < c.S := by
  apply Nat.pos_of_ne_zero
  intro h0
  unfold bfsScan at h
  rw [h0] at h
  simp only [bfsScan.go] at h
  cases h

theorem slotSearch_go_some_pos (c : Cfg κ) (locked : Bool) (hp : Nat) : ∀ (fuel : Nat) (t : Table κ ν)
    (q : Array BSlot) (first : Nat) (x : BSlot), (slotSearch.go c locked hp fuel t q first).2 = some x → 0 < c.S := by
  intro fuel
  induction fuel with
  | zero => intro t q first x h; cases h
  | succ n ih =>
    intro t q first x h
    simp only [slotSearch.go] at h
    cases hq : q[first]? with
    | none => rw [hq] at h; cases h
    | some y =>
      rw [hq] at h
      simp only at h
      cases hb : bfsScan c hp (t.lockOneM c locked y.bucket).cur y with
      | inl r => exact bfsScan_inl_pos c hp _ y r hb
      | inr ch => rw [hb] at h; exact ih _ _ _ x h

theorem slotSearch_some_pos (c : Cfg κ) (locked : Bool) (hp : Nat) (t : Table κ ν) (i1 i2 : Nat) (x : BSlot)
    (h : (slotSearch c locked hp t i1 i2).2 = some x) : 0 < c.S :=
  slotSearch_go_some_pos c locked hp _ t _ _ x h

theorem decodeSlots_lt (S : Nat) (hS : 0 < S) : ∀ (n code : Nat) (acc : List Nat), (∀ x ∈ acc, x < S) →
    ∀ x ∈ (decodeSlots S n code acc).2, x < S := by
  intro n
  induction n with
  | zero => exact fun code acc h => h
  | succ n ih => exact fun code acc h => ih _ _ (List.forall_mem_cons.mpr ⟨Nat.mod_lt _ hS, h⟩)

theorem PathOK_cons (c : Cfg κ) (hp : Nat) (p : PathRec) (suf : List PathRec) (hs : p.slot < c.S)
    (hsuf : PathOK c hp suf)
    (hh : ∀ q, suf.head? = some q → q.bucket = Spec.altIndex hp (Spec.partialKey p.hash) p.bucket) :
    PathOK c hp (p :: suf) := by
  cases suf with
  | nil => exact hs
  | cons q rest => exact ⟨hs, hh q rfl, hsuf⟩

theorem buildPath_go_path (c : Cfg κ) (locked : Bool) (hp : Nat) : ∀ (slots : List Nat) (t : Table κ ν) (b : Nat)
    (acc : List PathRec), (∀ s ∈ slots, s < c.S) →
    ∃ suf, (buildPath.go c locked hp t b slots acc).2 = acc.reverse ++ suf ∧ PathOK c hp suf ∧
      ∀ p0, suf.head? = some p0 → p0.bucket = b := by
  intro slots
  induction slots with
  | nil =>
    intro t b acc hs
    simp only [buildPath.go]
    exact ⟨[], by simp, trivial, by simp⟩
  | cons s rest ih =>
    intro t b acc hs
    simp only [buildPath.go]
    have hsS : s < c.S := hs s (List.mem_cons_self)
    cases hg : (t.lockOneM c locked b).cur.get c.S b s with
    | none =>
      exact ⟨[⟨b, s, 0, 0⟩], by simp, hsS, fun p0 e => by cases e; rfl⟩
    | some sl =>
      simp only
      obtain ⟨suf, he, hok, hhd⟩ := ih (t.lockOneM c locked b)
        (Spec.altIndex hp (Spec.partialKey (c.hash sl.key)) b)
        (⟨b, s, c.hash sl.key, Spec.partialKey (c.hash sl.key)⟩ :: acc)
        (fun x hx => hs x (List.mem_cons_of_mem _ hx))
      exact ⟨⟨b, s, c.hash sl.key, Spec.partialKey (c.hash sl.key)⟩ :: suf, by rw [he]; simp,
        PathOK_cons c hp _ suf hsS hok hhd, fun p0 e => by cases e; rfl⟩

theorem buildPath_path [DecidableEq κ] (c : Cfg κ) (locked : Bool) (hp : Nat) (t : Table κ ν) (i1 i2 : Nat) (x : BSlot) (hS : 0 < c.S) :
    PathOK c hp (buildPath c locked hp t i1 i2 x).2 ∧
    ∀ p0, (buildPath c locked hp t i1 i2 x).2.head? = some p0 → p0.bucket = i1 ∨ p0.bucket = i2 := by
  unfold buildPath
  have hd := decodeSlots_lt c.S hS (x.depth + 1) x.pathcode [] (by simp)
  generalize decodeSlots c.S (x.depth + 1) x.pathcode [] = d at hd
  obtain ⟨code, slots⟩ := d
  simp only
  obtain ⟨suf, he, hok, hhd⟩ := buildPath_go_path c locked hp slots t (if code = 0 then i1 else i2) [] hd
  simp only [List.reverse_nil, List.nil_append] at he
  refine ⟨he ▸ hok, ?_⟩
  intro p0 e
  rw [he] at e
  rw [hhd p0 e]
  split <;> simp

theorem buildPath_go_step (c : Cfg κ) (locked : Bool) (hp : Nat) (slots : List Nat) :
    ∀ (t : Table κ ν) (b : Nat) (acc : List PathRec), Inv c t → (locked = true → AllMig t) →
    Step c t (buildPath.go c locked hp t b slots acc).1 := by
  induction slots with
  | nil => exact fun t b acc h hl => .refl h
  | cons s rest ih =>
    intro t b acc h hl
    simp only [buildPath.go]
    have st := (lockOneM_step c locked t b h hl).1
    split
    · exact st
    · exact st.trans (ih _ _ _ st.inv (st.allmig hl))

theorem buildPath_step [DecidableEq κ] (c : Cfg κ) (locked : Bool) (hp : Nat) (t : Table κ ν) (i1 i2 : Nat) (x : BSlot)
    (h : Inv c t) (hl : locked = true → AllMig t) : Step c t (buildPath c locked hp t i1 i2 x).1 :=
  buildPath_go_step c locked hp _ t _ [] h hl

/-- `PathOK` in the reversed orientation -/
def RPathOK (c : Cfg κ) (hp : Nat) : List PathRec → Prop
  | [] => True
  | [p] => p.slot < c.S
  | to :: fr :: rest =>
    to.slot < c.S ∧ to.bucket = Spec.altIndex hp (Spec.partialKey fr.hash) fr.bucket ∧ RPathOK c hp (fr :: rest)

theorem RPathOK_snoc (c : Cfg κ) (hp : Nat) (p : PathRec) (hs : p.slot < c.S) :
    ∀ (l : List PathRec), RPathOK c hp l →
    (∀ q, l.getLast? = some q → q.bucket = Spec.altIndex hp (Spec.partialKey p.hash) p.bucket) →
    RPathOK c hp (l ++ [p]) := by
  intro l
  induction l with
  | nil => intro _ _; exact hs
  | cons a tl ih =>
    intro hok hl
    cases tl with
    | nil => exact ⟨hok, hl a rfl, hs⟩
    | cons b tl' =>
      obtain ⟨h1, h2, h3⟩ := hok
      refine ⟨h1, h2, ?_⟩
      apply ih h3
      intro q hq
      apply hl q
      simpa [List.getLast?_cons_cons] using hq

theorem RPathOK_reverse (c : Cfg κ) (hp : Nat) : ∀ (path : List PathRec), PathOK c hp path →
    RPathOK c hp path.reverse := by
  intro path
  induction path with
  | nil => intro _; trivial
  | cons p tl ih =>
    intro hok
    rw [List.reverse_cons]
    cases tl with
    | nil => exact hok
    | cons q rest =>
      obtain ⟨h1, h2, h3⟩ := hok
      refine RPathOK_snoc c hp p h1 _ (ih h3) fun q' hq' => ?_
      rw [List.getLast?_reverse] at hq'
      cases hq'; exact h2

theorem pathMove_go_last (c : Cfg κ) (locked : Bool) (i1 i2 : Nat) (t : Table κ ν) (to fr : PathRec) :
    pathMove.go c locked i1 i2 t [to, fr] =
      match hop c (t.lockThreeM c locked i1 i2 to.bucket) fr to with
      | none => (t.lockThreeM c locked i1 i2 to.bucket, false)
      | some t' => (t', true) := by
  rw [pathMove.go]
  rfl

theorem pathMove_go_more (c : Cfg κ) (locked : Bool) (i1 i2 : Nat) (t : Table κ ν) (to fr r : PathRec)
    (rest : List PathRec) :
    pathMove.go c locked i1 i2 t (to :: fr :: r :: rest) =
      match hop c (t.lockTwoM c locked fr.bucket to.bucket) fr to with
      | none => (t.lockTwoM c locked fr.bucket to.bucket, false)
      | some t' => pathMove.go c locked i1 i2 t' (fr :: r :: rest) := by
  rw [pathMove.go]
  rfl

theorem pathMove_go_step (c : Cfg κ) (locked : Bool) (i1 i2 : Nat) : ∀ (rev : List PathRec) (t : Table κ ν),
    Inv c t → (locked = true → AllMig t) → RPathOK c t.hp rev → 2 ≤ rev.length →
    Step c t (pathMove.go c locked i1 i2 t rev).1 ∧
    ((pathMove.go c locked i1 i2 t rev).2 = true →
      (pathMove.go c locked i1 i2 t rev).1.unmigB c i1 = false ∧
      (pathMove.go c locked i1 i2 t rev).1.unmigB c i2 = false ∧
      ∀ p0, rev.getLast? = some p0 → (pathMove.go c locked i1 i2 t rev).1.cur.get c.S p0.bucket p0.slot = none) := by
  intro rev
  induction rev with
  | nil => intro t _ _ _ hlen; simp at hlen
  | cons to tl ih =>
    intro t h hl hok hlen
    cases tl with
    | nil => simp at hlen
    | cons fr rest =>
      -- `rev` is the path reversed, as `pathMove.go` consumes it: its first hop `fr → to` is the last of the path.
      -- The hop at the head of the path (`rest = []`) is made under `i1`, `i2` as well, which gives the two flags, and
      -- its source is the head of the path, which `hop_step` leaves empty
      obtain ⟨hslot, halt, hok'⟩ := hok
      cases rest with
      | nil =>
        rw [pathMove_go_last]
        obtain ⟨st, u1, u2, u3⟩ := lockThreeM_step c locked t i1 i2 to.bucket h hl
        split
        · exact ⟨st, fun e => nomatch e⟩
        · rename_i t' hhop
          obtain ⟨st', hg⟩ := hop_step c _ t' fr to st.inv hhop (by rw [st.keeps.hp]; exact halt) hslot u3
          exact ⟨st.trans st', fun _ => ⟨st'.keeps.mono _ u1, st'.keeps.mono _ u2, fun p0 e => by cases e; exact hg⟩⟩
      | cons r rest' =>
        rw [pathMove_go_more]
        obtain ⟨st, u1, u2⟩ := lockTwoM_step c locked t fr.bucket to.bucket h hl
        split
        · exact ⟨st, fun e => nomatch e⟩
        · rename_i t' hhop
          obtain ⟨st', hg⟩ := hop_step c _ t' fr to st.inv hhop (by rw [st.keeps.hp]; exact halt) hslot u2
          have s2 := st.trans st'
          obtain ⟨s3, hres⟩ := ih t' s2.inv (s2.allmig hl) (by rw [s2.keeps.hp]; exact hok') (by simp)
          refine ⟨s2.trans s3, fun e => ?_⟩
          obtain ⟨r1, r2, r3⟩ := hres e
          exact ⟨r1, r2, fun p0 e0 => r3 p0 (by simpa [List.getLast?_cons_cons] using e0)⟩

/-- `cuckoopath_move` is an internal step; if it reports success, both candidate stripes are held (migrated) and the
head of the path is free -/
theorem pathMove_step (c : Cfg κ) (locked : Bool) (t : Table κ ν) (i1 i2 : Nat) (path : List PathRec)
    (h : Inv c t) (hl : locked = true → AllMig t) (hp : PathOK c t.hp path) :
    Step c t (pathMove c locked t i1 i2 path).1 ∧
    ((pathMove c locked t i1 i2 path).2 = true →
      (pathMove c locked t i1 i2 path).1.unmigB c i1 = false ∧
      (pathMove c locked t i1 i2 path).1.unmigB c i2 = false ∧
      ∀ p0, path.head? = some p0 → (pathMove c locked t i1 i2 path).1.cur.get c.S p0.bucket p0.slot = none) := by
  rcases path with _ | ⟨p0, _ | ⟨p1, rest⟩⟩
  · simp only [pathMove]
    exact ⟨.refl h, fun e => nomatch e⟩
  · simp only [pathMove]
    obtain ⟨st, u1, u2⟩ := lockTwoM_step c locked t i1 i2 h hl
    refine ⟨st, fun e => ⟨u1, u2, fun p e0 => ?_⟩⟩
    cases e0
    simpa [Store.occ] using e
  · simp only [pathMove]
    have := pathMove_go_step c locked i1 i2 (p0 :: p1 :: rest).reverse t h hl (RPathOK_reverse c t.hp _ hp)
      (by simp)
    rw [List.getLast?_reverse] at this
    exact this

set_option linter.unusedVariables false in
theorem pathMove_spec (c : Cfg κ) (locked : Bool) (t : Table κ ν) (i1 i2 : Nat) (path : List PathRec)
    (h : Inv c t) (hl : locked = true → AllMig t) (hp : PathOK c t.hp path)
    (h1 : i1 < 2 ^ t.hp) (h2 : i2 < 2 ^ t.hp) :
    Inv c (pathMove c locked t i1 i2 path).1 ∧ Same c t (pathMove c locked t i1 i2 path).1 ∧
    Keeps c t (pathMove c locked t i1 i2 path).1 ∧
    ((pathMove c locked t i1 i2 path).2 = true →
      (pathMove c locked t i1 i2 path).1.unmigB c i1 = false ∧
      (pathMove c locked t i1 i2 path).1.unmigB c i2 = false ∧
      ∀ p0, path.head? = some p0 → (pathMove c locked t i1 i2 path).1.cur.get c.S p0.bucket p0.slot = none) :=
  have ⟨s, r⟩ := pathMove_step c locked t i1 i2 path h hl hp
  ⟨s.inv, s.same, s.keeps, r⟩

theorem PathOK_head_slot (c : Cfg κ) (hp : Nat) (path : List PathRec) (p0 : PathRec) (hok : PathOK c hp path)
    (hh : path.head? = some p0) : p0.slot < c.S := by
  rcases path with _ | ⟨p, _ | ⟨q, rest⟩⟩
  · cases hh
  · cases hh; exact hok
  · cases hh; exact hok.1

theorem runCuckoo_go_spec [DecidableEq κ] (c : Cfg κ) (locked : Bool) (i1 i2 hp : Nat) (fuel : Nat) :
    ∀ (t : Table κ ν), Inv c t → (locked = true → AllMig t) → t.hp = hp →
    Step c t (runCuckoo.go c locked i1 i2 hp fuel t).1 ∧
    match (runCuckoo.go c locked i1 i2 hp fuel t).2 with
    | .ok b s => (b = i1 ∨ b = i2) ∧ s < c.S ∧ (runCuckoo.go c locked i1 i2 hp fuel t).1.cur.get c.S b s = none ∧
        (runCuckoo.go c locked i1 i2 hp fuel t).1.unmigB c i1 = false ∧
        (runCuckoo.go c locked i1 i2 hp fuel t).1.unmigB c i2 = false
    | _ => True := by
  induction fuel with
  | zero => intro t h _ _; simp only [runCuckoo.go]; exact ⟨.refl h, trivial⟩
  | succ n ih =>
    -- one round is three `Step`s in a row (search, path, moves); a failed move retries from the table it left (`ih`);
    -- on success the head of the path is the slot: a candidate by `buildPath_path`, emptied by `pathMove_step`
    intro t h hl hhp
    simp only [runCuckoo.go]
    have s1 := slotSearch_step c locked hp t i1 i2 h hl
    generalize slotSearch c locked hp t i1 i2 = r at s1
    obtain ⟨t1, o⟩ := r
    cases o with
    | none => exact ⟨s1, trivial⟩
    | some x =>
      simp only
      have s2 := buildPath_step c locked hp t1 i1 i2 x s1.inv (s1.allmig hl)
      obtain ⟨hok, hhead⟩ := buildPath_path c locked hp t1 i1 i2 x h.S_pos
      generalize buildPath c locked hp t1 i1 i2 x = r2 at s2 hok hhead
      obtain ⟨t2, path⟩ := r2
      simp only at s2 hok hhead ⊢
      have s12 := s1.trans s2
      have e2 : t2.hp = hp := s12.keeps.hp.trans hhp
      have hpm := pathMove_step c locked t2 i1 i2 path s12.inv (s12.allmig hl) (by rw [e2]; exact hok)
      generalize pathMove c locked t2 i1 i2 path = r3 at hpm
      obtain ⟨t3, ok⟩ := r3
      obtain ⟨s3, hres⟩ := hpm
      have s13 := s12.trans s3
      cases ok with
      | true =>
        simp only
        obtain ⟨u1, u2, hg⟩ := hres rfl
        cases hph : path.head? with
        | none => exact ⟨s13, trivial⟩
        | some p0 => exact ⟨s13, hhead p0 hph, PathOK_head_slot c hp path p0 hok hph, hg p0 hph, u1, u2⟩
      | false =>
        simp only
        obtain ⟨s4, hres4⟩ := ih t3 s13.inv (s13.allmig hl) (s13.keeps.hp.trans hhp)
        exact ⟨s13.trans s4, hres4⟩

theorem runCuckoo_step [DecidableEq κ] (c : Cfg κ) (locked : Bool) (t : Table κ ν) (i1 i2 : Nat)
    (h : Inv c t) (hl : locked = true → AllMig t) :
    Step c t (runCuckoo c locked t i1 i2).1 ∧
    match (runCuckoo c locked t i1 i2).2 with
    | .ok b s => (b = i1 ∨ b = i2) ∧ s < c.S ∧ (runCuckoo c locked t i1 i2).1.cur.get c.S b s = none ∧
        (runCuckoo c locked t i1 i2).1.unmigB c i1 = false ∧ (runCuckoo c locked t i1 i2).1.unmigB c i2 = false
    | _ => True :=
  -- `64`: the rounds `runCuckoo` allows itself (`go 64 t` in Model/Search.lean); the lemma holds for any number
  runCuckoo_go_spec c locked i1 i2 t.hp 64 t h hl rfl

set_option linter.unusedVariables false in
theorem runCuckoo_spec [DecidableEq κ] (c : Cfg κ) (locked : Bool) (t : Table κ ν) (i1 i2 : Nat)
    (h : Inv c t) (hl : locked = true → AllMig t) (h1 : i1 < 2 ^ t.hp) (h2 : i2 < 2 ^ t.hp) :
    Inv c (runCuckoo c locked t i1 i2).1 ∧ Same c t (runCuckoo c locked t i1 i2).1 ∧
    Keeps c t (runCuckoo c locked t i1 i2).1 ∧
    match (runCuckoo c locked t i1 i2).2 with
    | .ok b s => (b = i1 ∨ b = i2) ∧ s < c.S ∧ (runCuckoo c locked t i1 i2).1.cur.get c.S b s = none ∧
        (runCuckoo c locked t i1 i2).1.unmigB c i1 = false ∧ (runCuckoo c locked t i1 i2).1.unmigB c i2 = false
    | _ => True :=
  have ⟨s, r⟩ := runCuckoo_step c locked t i1 i2 h hl
  ⟨s.inv, s.same, s.keeps, r⟩

end Cuckoo.Model
