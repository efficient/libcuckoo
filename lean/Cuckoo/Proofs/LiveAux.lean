import Cuckoo.Model.ProtoLive
import Cuckoo.Proofs.ProtoSpec
/-!
The invariant `LInv` of the product run `runL`: the failed validations of a thread are bounded by its counter snapshot,
or by the counter itself while the thread has to load it again; so each failure is paid for by a counter bump.
-/
namespace Cuckoo.Proto

theorem bumps_cons (e : Ev) (es : List Ev) : bumps (e :: es) = bumpOf e + bumps es := by
  cases e with
  | bumpRc t => exact Nat.add_comm _ _
  | _ => exact (Nat.zero_add _).symm

def isRcLoad : Ev → Bool
  | .rcLoad _ => true
  | _ => false

theorem rcLoad_or_not (e : Ev) : (∃ t, e = .rcLoad t) ∨ isRcLoad e = false := by
  cases e with
  | rcLoad t => exact .inl ⟨t, rfl⟩
  | _ => exact .inr rfl

@[simp] theorem updN_same (f : Tid → Nat) (t : Tid) (x : Nat) : updN f t x t = x := by simp [updN]
theorem updN_other {f : Tid → Nat} {t u : Tid} {x : Nat} (h : u ≠ t) : updN f t x u = f u := by simp [updN, h]
@[simp] theorem updB_same (f : Tid → Bool) (t : Tid) (x : Bool) : updB f t x t = x := by simp [updB]
theorem updB_other {f : Tid → Bool} {t u : Tid} {x : Bool} (h : u ≠ t) : updB f t x u = f u := by simp [updB, h]

theorem stepL_not_rcLoad {s : PS} {l l' : LS} {e : Ev} (hne : isRcLoad e = false) (h : stepL s l e = some l') : l' = l := by
  cases e with
  | rcLoad t => cases hne
  | acquire t k => exact (none_if_iff.1 h).2
  | _ => exact (Option.some.inj h).symm

/-- an event other than a counter load keeps every counter snapshot, and a thread becomes pending only by a first
lock, which rule L allows only if it has loaded the counter since its last failed validation -/
theorem step_frame {s s' : PS} {l l' : LS} {e : Ev} (hne : isRcLoad e = false) (h : accept s e = some s')
    (hl : stepL s l e = some l') (u : Tid) :
    (s'.th u).snapRc = (s.th u).snapRc ∧
    ((s'.th u).pendingVal = true → (s.th u).pendingVal = true ∨ l.needSnap u = false) := by
  -- what is asked of the new record `x'` of the acting thread `t`
  have hrec : ∀ (t : Tid) (x' : TS), x'.snapRc = (s.th t).snapRc →
      (x'.pendingVal = true → (s.th t).pendingVal = true ∨ l.needSnap t = false) →
      (upd s.th t x' u).snapRc = (s.th u).snapRc ∧
      ((upd s.th t x' u).pendingVal = true → (s.th u).pendingVal = true ∨ l.needSnap u = false) := by
    intro t x' h1 h2
    rw [upd_apply]; split
    · next hu => rw [hu]; exact ⟨h1, h2⟩
    · exact ⟨rfl, Or.inl⟩
  cases e with
  | rcLoad t => cases hne
  | hpLoad t => obtain ⟨-, rfl⟩ := accept_hpLoad_iff.1 h; exact hrec t _ rfl Or.inl
  | genLoad t => obtain rfl := accept_genLoad_iff.1 h; exact hrec t _ rfl Or.inl
  | acquire t k =>
    obtain ⟨-, -, -, -, x', rfl, hx⟩ := accept_acquire_iff.1 h
    rcases hx with ⟨-, rfl⟩ | ⟨hia, he, -, rfl⟩ | ⟨-, -, -, rfl⟩
    · exact hrec t _ rfl Or.inl
    · refine hrec t _ rfl fun _ => Or.inr ?_
      cases hq : l.needSnap t with
      | false => rfl
      | true => exact absurd ⟨List.isEmpty_iff.2 he, by rw [hia]; exact Bool.false_ne_true, hq⟩ (none_if_iff.1 hl).1
    · exact hrec t _ rfl Or.inl
  | release t k =>
    obtain ⟨-, -, -, x', rfl, hx⟩ := accept_release_iff.1 h
    rcases hx with ⟨-, rfl⟩ | ⟨-, rfl⟩ <;> exact hrec t _ rfl Or.inl
  | access t i => obtain ⟨-, rfl⟩ := accept_access_iff.1 h; exact ⟨rfl, Or.inl⟩
  | allBegin t => obtain ⟨-, rfl⟩ := accept_allBegin_iff.1 h; exact hrec t _ rfl Or.inl
  | allEnd t => obtain ⟨-, rfl⟩ := accept_allEnd_iff.1 h; exact hrec t _ rfl Or.inl
  | storeHp t v => obtain ⟨-, rfl⟩ := accept_storeHp_iff.1 h; exact hrec t _ rfl Or.inl
  | append t n => obtain ⟨-, rfl⟩ := accept_append_iff.1 h; exact hrec t _ rfl Or.inl
  | bumpRc t => obtain ⟨-, rfl⟩ := accept_bumpRc_iff.1 h; exact hrec t _ rfl Or.inl
  | opEnd t k => obtain ⟨-, rfl⟩ := accept_opEnd_iff.1 h; exact ⟨rfl, Or.inl⟩
  | sectionEnd t => obtain ⟨-, rfl⟩ := accept_sectionEnd_iff.1 h; exact ⟨rfl, Or.inl⟩

structure LInvT (s : PS) (l : LS) (t : Tid) : Prop where
  pend_fresh : (s.th t).pendingVal = true → l.needSnap t = false
  rc_le : (s.th t).snapRc ≤ s.rc
  stale_le : l.needSnap t = true → l.fails t ≤ s.rc
  fresh_le : l.needSnap t = false → l.fails t ≤ (s.th t).snapRc

def LInv (s : PS) (l : LS) : Prop := ∀ t, LInvT s l t

theorem linvT_frame {s s' : PS} {l l' : LS} {u : Tid} (hi : LInvT s l u) (hrc : s.rc ≤ s'.rc)
    (hsn : (s'.th u).snapRc = (s.th u).snapRc) (hf : l'.fails u = l.fails u) (hn : l'.needSnap u = l.needSnap u)
    (hp : (s'.th u).pendingVal = true → (s.th u).pendingVal = true ∨ l.needSnap u = false) : LInvT s' l' u := by
  constructor
  · intro h; rw [hn]; rcases hp h with h | h
    · exact hi.pend_fresh h
    · exact h
  · rw [hsn]; exact Nat.le_trans hi.rc_le hrc
  · rw [hn, hf]; intro h; exact Nat.le_trans (hi.stale_le h) hrc
  · rw [hn, hf, hsn]; exact hi.fresh_le

theorem linv_fails_le {s : PS} {l : LS} (hi : LInv s l) (t : Tid) : l.fails t ≤ s.rc := by
  cases hq : l.needSnap t
  · exact Nat.le_trans ((hi t).fresh_le hq) (hi t).rc_le
  · exact (hi t).stale_le hq

theorem runL_cons {s : PS} {l : LS} {e : Ev} {es : List Ev} {p : PS × LS} : runL s l (e :: es) = some p ↔
    ∃ s1 l1, accept s e = some s1 ∧ stepL s l e = some l1 ∧ runL s1 l1 es = some p := by
  show (match accept s e, stepL s l e with
    | some s', some l' => runL s' l' es
    | _, _ => none) = _ ↔ _
  cases accept s e <;> cases stepL s l e <;> simp

/-- a counter load has the same three outcomes in `accept` and in `stepL` -/
theorem rcLoad_stepL {s s' : PS} {l l' : LS} {t : Tid} (ha : accept s (.rcLoad t) = some s')
    (hl : stepL s l (.rcLoad t) = some l') : (s'.th t).pendingVal = false ∧
    ((s.th t).pendingVal = true ∧ (s.th t).snapRc = s.rc ∧ (s'.th t).snapRc = (s.th t).snapRc ∧ l' = l ∨
     (s.th t).pendingVal = true ∧ (s.th t).snapRc ≠ s.rc ∧ (s'.th t).snapRc = (s.th t).snapRc ∧
       l' = { fails := updN l.fails t (l.fails t + 1), needSnap := updB l.needSnap t true } ∨
     (s.th t).pendingVal = false ∧ (s'.th t).snapRc = s.rc ∧ l' = { l with needSnap := updB l.needSnap t false }) := by
  obtain ⟨x', rfl, hx⟩ := accept_rcLoad_iff.1 ha
  dsimp only; rw [upd_same]
  rcases hx with ⟨hp, hr, rfl⟩ | ⟨hp, hr, rfl⟩ | ⟨hp, rfl⟩
  · simp only [stepL, hp, hr, if_true, Option.some.injEq] at hl
    exact ⟨rfl, Or.inl ⟨hp, hr, rfl, hl.symm⟩⟩
  · simp only [stepL, hp, hr, if_true, if_false, Option.some.injEq] at hl
    exact ⟨rfl, Or.inr (Or.inl ⟨hp, hr, rfl, hl.symm⟩)⟩
  · simp only [stepL, hp, Bool.false_eq_true, if_false, Option.some.injEq] at hl
    exact ⟨hp, Or.inr (Or.inr ⟨hp, rfl, hl.symm⟩)⟩

theorem linv_step {s s' : PS} {l l' : LS} {e : Ev} (hi : LInv s l) (ha : accept s e = some s')
    (hl : stepL s l e = some l') : LInv s' l' := by
  intro u
  have hu := hi u
  have hrc : s.rc ≤ s'.rc := by rw [accept_rc ha]; omega
  rcases rcLoad_or_not e with ⟨t, rfl⟩ | hne
  · obtain ⟨hp', hx⟩ := rcLoad_stepL ha hl
    by_cases hut : u = t
    · subst hut
      rcases hx with ⟨-, -, hs', rfl⟩ | ⟨hp, hr, hs', rfl⟩ | ⟨-, hs', rfl⟩
      · exact linvT_frame hu hrc hs' rfl rfl (fun h => by rw [hp'] at h; cases h)
      · -- the failed validation is paid for by the counter: `fails ≤ snapRc < rc`
        have h2 := hu.fresh_le (hu.pend_fresh hp)
        have h3 := hu.rc_le
        exact {
          pend_fresh := fun h => by rw [hp'] at h; cases h
          rc_le := by omega
          stale_le := fun _ => by show updN l.fails u (l.fails u + 1) u ≤ _; rw [updN_same]; omega
          fresh_le := fun h => Bool.noConfusion ((updB_same l.needSnap u true).symm.trans h) }
      · exact {
          pend_fresh := fun _ => updB_same ..
          rc_le := by omega
          stale_le := fun h => Bool.noConfusion ((updB_same l.needSnap u false).symm.trans h)
          fresh_le := fun _ => hs' ▸ linv_fails_le hi u }
    · have e2 : l'.fails u = l.fails u ∧ l'.needSnap u = l.needSnap u := by
        rcases hx with ⟨-, -, -, rfl⟩ | ⟨-, -, -, rfl⟩ | ⟨-, -, rfl⟩
        · exact ⟨rfl, rfl⟩
        · exact ⟨updN_other hut, updB_other hut⟩
        · exact ⟨rfl, updB_other hut⟩
      have e1 := accept_others ha u hut
      exact linvT_frame hu hrc (by rw [e1]) e2.1 e2.2 (fun h => Or.inl (by rw [← e1]; exact h))
  · cases stepL_not_rcLoad hne hl
    obtain ⟨h1, h2⟩ := step_frame hne ha hl u
    exact linvT_frame hu hrc h1 rfl rfl h2

theorem linv_init (hp n : Nat) : LInv (init hp n) LS.init := by
  intro t; constructor <;> simp [init, LS.init]

theorem runL_fails_le {evs : List Ev} {s s' : PS} {l l' : LS} (hi : LInv s l) (h : runL s l evs = some (s', l'))
    (t : Tid) : l'.fails t ≤ s.rc + bumps evs := by
  induction evs generalizing s l with
  | nil => cases h; exact linv_fails_le hi t
  | cons e es ih =>
    obtain ⟨s1, l1, ha, hl, h⟩ := runL_cons.1 h
    rw [bumps_cons, ← Nat.add_assoc, ← accept_rc ha]
    exact ih (linv_step hi ha hl) h

theorem cur_step {s s' : PS} {l l' : LS} {e : Ev} (hc : ∀ t, (s.th t).snapRc = s.rc) (hb : bumpOf e = 0)
    (ha : accept s e = some s') (hl : stepL s l e = some l') :
    (∀ t, (s'.th t).snapRc = s'.rc) ∧ ∀ t, l'.fails t = l.fails t := by
  have hrc : s'.rc = s.rc := by rw [accept_rc ha, hb]; rfl
  rcases rcLoad_or_not e with ⟨t, rfl⟩ | hne
  · obtain ⟨-, hx⟩ := rcLoad_stepL ha hl
    have hx' : (s'.th t).snapRc = s.rc ∧ ∀ u, l'.fails u = l.fails u := by
      rcases hx with ⟨-, -, hs', rfl⟩ | ⟨-, hr, -⟩ | ⟨-, hs', rfl⟩
      · exact ⟨hs'.trans (hc t), fun _ => rfl⟩
      · exact absurd (hc t) hr
      · exact ⟨hs', fun _ => rfl⟩
    refine ⟨fun u => ?_, hx'.2⟩
    rw [hrc]
    by_cases hu : u = t
    · rw [hu]; exact hx'.1
    · rw [accept_others ha u hu]; exact hc u
  · cases stepL_not_rcLoad hne hl
    exact ⟨fun t => by rw [(step_frame hne ha hl t).1, hrc]; exact hc t, fun _ => rfl⟩

end Cuckoo.Proto
