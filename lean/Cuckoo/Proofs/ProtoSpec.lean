import Cuckoo.Model.Proto
/-!
The update functions `upd`, `updH`, and what `Proto.accept` does, event by event:
`accept s e = some s' ↔ guard ∧ s' = …`.  Every proof about the acceptor goes through these; none unfolds `accept`
itself.
-/
namespace Cuckoo.Proto

@[simp] theorem upd_same (f : Tid → TS) (t : Tid) (x : TS) : upd f t x t = x := by simp [upd]
theorem upd_other {f : Tid → TS} {t u : Tid} {x : TS} (h : u ≠ t) : upd f t x u = f u := by simp [upd, h]
theorem upd_apply (f : Tid → TS) (t u : Tid) (x : TS) : upd f t x u = if u = t then x else f u := rfl

@[simp] theorem updH_same (f : LockId → Option Tid) (l : LockId) (x : Option Tid) : updH f l x l = x := by simp [updH]
theorem updH_other {f : LockId → Option Tid} {l m : LockId} {x : Option Tid} (h : m ≠ l) : updH f l x m = f m := by
  simp [updH, h]
theorem updH_apply (f : LockId → Option Tid) (l m : LockId) (x : Option Tid) :
    updH f l x m = if m = l then x else f m := rfl

section
variable {H : LockId → Option Tid} {l m : LockId} {v : Option Tid} {u : Tid}

theorem updH_eq_some (hold : H l ≠ some u) (h : H m = some u) : updH H l v m = some u := by
  rw [updH_other (by rintro rfl; exact hold h)]; exact h

theorem of_updH_eq_some (hv : v ≠ some u) (h : updH H l v m = some u) : H m = some u := by
  rw [updH_apply] at h; split at h
  · exact absurd h hv
  · exact h

theorem updH_iff_other (hold : H l ≠ some u) (hv : v ≠ some u) : updH H l v m = some u ↔ H m = some u :=
  ⟨of_updH_eq_some hv, updH_eq_some hold⟩
end

theorem some_if_iff {α : Type} {c : Prop} [Decidable c] {a b : α} : (if c then some a else none) = some b ↔ c ∧ b = a := by
  rw [Option.ite_none_right_eq_some, Option.some.injEq, eq_comm]

theorem none_if_iff {α : Type} {c : Prop} [Decidable c] {a b : α} : (if c then none else some a) = some b ↔ ¬ c ∧ b = a := by
  rw [Option.ite_none_left_eq_some, Option.some.injEq, eq_comm]

variable {s s' : PS} {t : Tid}

-- On these events `accept` unfolds to `if guard then some s₁ else none`; only the spelling of the guard is adjusted.

theorem accept_hpLoad_iff : accept s (.hpLoad t) = some s' ↔ (s.th t).pendingVal = false ∧
    s' = { s with th := upd s.th t { s.th t with snapHp := s.hp, hpOk := true, hpInHold := (s.th t).validated } } :=
  none_if_iff.trans (by rw [Bool.not_eq_true])

theorem accept_genLoad_iff : accept s (.genLoad t) = some s' ↔
    s' = { s with th := upd s.th t { s.th t with snapGen := s.curGen, genOk := !(s.th t).pendingVal,
                                                 genInHold := (s.th t).validated } } :=
  Option.some_inj.trans eq_comm

theorem accept_access_iff {i : Nat} : accept s (.access t i) = some s' ↔
    (((s.th t).validated = true ∨ (s.th t).owner = true) ∧ s.holder ⟨s.curGen, i⟩ = some t ∧
      (s.th t).mustRelease = false) ∧ s' = s :=
  some_if_iff.trans (by rw [Bool.not_eq_true])

theorem access_holds {i : Nat} (h : (accept s (.access t i)).isSome = true) : s.holder ⟨s.curGen, i⟩ = some t := by
  obtain ⟨s', hs'⟩ := Option.isSome_iff_exists.1 h
  exact (accept_access_iff.1 hs').1.2.1

theorem accept_allBegin_iff : accept s (.allBegin t) = some s' ↔ ((s.th t).held = [] ∧ (s.th t).inAll = false) ∧
    s' = { s with th := upd s.th t { s.th t with inAll := true } } :=
  some_if_iff.trans (by rw [List.isEmpty_iff, Bool.not_eq_true])

theorem accept_allEnd_iff : accept s (.allEnd t) = some s' ↔ ((s.th t).inAll = true ∧ s.holdsAllCur t = true) ∧
    s' = { s with th := upd s.th t { s.th t with inAll := false, owner := true } } :=
  some_if_iff

theorem accept_storeHp_iff {v : Nat} : accept s (.storeHp t v) = some s' ↔ (s.th t).owner = true ∧
    s' = { s with hp := v, th := upd s.th t { s.th t with dirty := true } } :=
  some_if_iff

theorem accept_bumpRc_iff : accept s (.bumpRc t) = some s' ↔ (s.th t).owner = true ∧
    s' = { s with rc := s.rc + 1, th := upd s.th t { s.th t with dirty := false } } :=
  some_if_iff

theorem accept_sectionEnd_iff : accept s (.sectionEnd t) = some s' ↔ (s.th t).held = [] ∧ s' = s :=
  some_if_iff.trans (by rw [List.isEmpty_iff])

theorem accept_opEnd_iff {keeps : Bool} : accept s (.opEnd t keeps) = some s' ↔
    (if keeps = true then (s.th t).owner = true ∧ (s.th t).dirty = false
     else (s.th t).held = [] ∧ (s.th t).inAll = false) ∧ s' = s := by
  cases keeps
  · exact some_if_iff.trans (by rw [List.isEmpty_iff, Bool.not_eq_true, if_neg Bool.false_ne_true])
  · exact some_if_iff.trans (by rw [Bool.not_eq_true, if_pos rfl])

/-- the state after `append t size` -/
def appSt (s : PS) (t : Tid) (size : Nat) : PS :=
  { s with gens := s.gens ++ [size],
           holder := fun l => if l.gen = s.gens.length ∧ l.idx < size then some t else s.holder l,
           th := upd s.th t { s.th t with dirty := true, held :=
             ((List.range size).map (fun i => (⟨s.gens.length, i⟩ : LockId))).reverse ++ (s.th t).held } }

theorem appSt_th_other {s : PS} {z : Tid} {size : Nat} {u : Tid} (hu : u ≠ z) : (appSt s z size).th u = s.th u :=
  upd_other hu

theorem appSt_th_same (s : PS) (z : Tid) (size : Nat) : (appSt s z size).th z = { s.th z with dirty := true, held :=
    ((List.range size).map (fun i => (⟨s.gens.length, i⟩ : LockId))).reverse ++ (s.th z).held } :=
  upd_same _ _ _

theorem appSt_holder (s : PS) (z : Tid) (size : Nat) (l : LockId) :
    (appSt s z size).holder l = if l.gen = s.gens.length ∧ l.idx < size then some z else s.holder l := rfl

theorem appSt_gens (s : PS) (z : Tid) (size : Nat) : (appSt s z size).gens = s.gens ++ [size] := rfl

theorem accept_append_iff {n : Nat} : accept s (.append t n) = some s' ↔
    ((s.th t).owner = true ∧ 0 < n) ∧ s' = appSt s t n :=
  some_if_iff

theorem accept_rcLoad_iff : accept s (.rcLoad t) = some s' ↔ ∃ x', s' = { s with th := upd s.th t x' } ∧
    ((s.th t).pendingVal = true ∧ (s.th t).snapRc = s.rc ∧ x' = { s.th t with pendingVal := false, validated := true } ∨
     (s.th t).pendingVal = true ∧ (s.th t).snapRc ≠ s.rc ∧ x' = { s.th t with pendingVal := false, mustRelease := true } ∨
     (s.th t).pendingVal = false ∧
       x' = { s.th t with snapRc := s.rc, hpOk := (s.th t).hpOk && (s.th t).validated && (s.th t).hpInHold,
                          genOk := (s.th t).genOk && (s.th t).validated && (s.th t).genInHold }) := by
  show (if _ then _ else _) = _ ↔ _
  cases hp : (s.th t).pendingVal
  · simp only [hp, Bool.false_eq_true, if_false, Option.some.injEq, false_and, false_or, true_and, exists_eq_right,
      eq_comm (b := s')]
  · by_cases hrc : (s.th t).snapRc = s.rc
    · simp only [hrc, if_true, Option.some.injEq, true_and, Bool.true_eq_false, false_and, or_false, ne_eq,
        not_true_eq_false, exists_eq_right, eq_comm (b := s')]
    · simp only [hrc, if_true, if_false, Option.some.injEq, true_and, Bool.true_eq_false, false_and, or_false, ne_eq,
        not_false_eq_true, false_or, exists_eq_right, eq_comm (b := s')]

theorem accept_release_iff {l : LockId} : accept s (.release t l) = some s' ↔
    s.holder l = some t ∧ (s.th t).dirty = false ∧ (s.th t).pendingVal = false ∧
    ∃ x', s' = { s with holder := updH s.holder l none, th := upd s.th t x' } ∧
      ((s.th t).held.filter (· ≠ l) = [] ∧
         x' = { s.th t with held := (s.th t).held.filter (· ≠ l), validated := false, mustRelease := false,
                            owner := false, hpInHold := false, genInHold := false } ∨
       (s.th t).held.filter (· ≠ l) ≠ [] ∧ x' = { s.th t with held := (s.th t).held.filter (· ≠ l), owner := false }) := by
  show (if _ then none else if _ then none else if _ then none else _) = _ ↔ _
  simp only [Option.ite_none_left_eq_some, Decidable.not_not, Bool.not_eq_true, Option.some.injEq, List.isEmpty_iff]
  refine and_congr_right fun _ => and_congr_right fun _ => and_congr_right fun _ => ?_
  by_cases he : (s.th t).held.filter (· ≠ l) = []
  · simp only [he, if_true, true_and, ne_eq, not_true_eq_false, false_and, or_false, exists_eq_right, eq_comm (b := s')]
  · simp only [he, if_false, false_and, false_or, ne_eq, not_false_eq_true, true_and, exists_eq_right, eq_comm (b := s')]

theorem accept_acquire_iff {l : LockId} : accept s (.acquire t l) = some s' ↔
    s.holder l = none ∧ (l.gen < s.gens.length ∧ l.idx < s.gens.getD l.gen 0) ∧ (∀ m ∈ (s.th t).held, m < l) ∧
    ((s.th t).mustRelease = false ∧ (s.th t).pendingVal = false) ∧
    ∃ x', s' = { s with holder := updH s.holder l (some t), th := upd s.th t x' } ∧
      ((s.th t).inAll = true ∧ x' = { s.th t with held := l :: (s.th t).held } ∨
       (s.th t).inAll = false ∧ (s.th t).held = [] ∧
         ((s.th t).hpOk = true ∧ (s.th t).genOk = true ∧ l.gen = (s.th t).snapGen) ∧
         x' = { s.th t with held := [l], pendingVal := true, validated := false } ∨
       (s.th t).inAll = false ∧ (s.th t).held ≠ [] ∧
         ((s.th t).validated = true ∧ ∀ m ∈ (s.th t).held, m.gen = l.gen) ∧
         x' = { s.th t with held := l :: (s.th t).held }) := by
  show (if _ then none else if _ then none else if _ then none else if _ then none else _) = _ ↔ _
  simp only [Option.ite_none_left_eq_some, Decidable.not_not, not_or, Nat.not_le, ge_iff_le, List.all_eq_true,
    decide_eq_true_eq, Bool.not_eq_true, List.isEmpty_iff]
  refine and_congr_right fun _ => and_congr_right fun _ => and_congr_right fun _ => and_congr_right fun _ => ?_
  cases hia : (s.th t).inAll
  · by_cases he : (s.th t).held = []
    · simp only [he, Bool.false_eq_true, if_false, if_true, Option.ite_none_right_eq_some, Option.some.injEq, false_and,
        false_or, true_and, ne_eq, not_true_eq_false, or_false, eq_comm (b := s')]
      exact ⟨fun ⟨g, e⟩ => ⟨_, e, g, rfl⟩, fun ⟨_, e, g, e'⟩ => ⟨g, e' ▸ e⟩⟩
    · simp only [he, Bool.false_eq_true, if_false, Option.ite_none_right_eq_some, Option.some.injEq, false_and,
        false_or, true_and, ne_eq, not_false_eq_true, eq_comm (b := s')]
      exact ⟨fun ⟨g, e⟩ => ⟨_, e, g, rfl⟩, fun ⟨_, e, g, e'⟩ => ⟨g, e' ▸ e⟩⟩
  · simp only [if_true, Option.some.injEq, true_and, Bool.true_eq_false, false_and, or_false, exists_eq_right,
      eq_comm (b := s')]

def Ev.tid : Ev → Tid
  | .rcLoad t | .hpLoad t | .genLoad t | .acquire t _ | .release t _ | .access t _ | .allBegin t | .allEnd t
  | .storeHp t _ | .append t _ | .bumpRc t | .opEnd t _ | .sectionEnd t => t

/-- what one accepted event does to the resize counter -/
def bumpOf : Ev → Nat
  | .bumpRc _ => 1
  | _ => 0

/-- the thread that event `e` gives locks to -/
def acqBy : Ev → Option Tid
  | .acquire t _ => some t
  | .append t _ => some t
  | _ => none

/-- the thread that event `e` takes a lock from -/
def relBy : Ev → Option Tid
  | .release t _ => some t
  | _ => none

/-- the lock table and the lock arrays after an accepted event -/
def holderAfter (s : PS) : Ev → LockId → Option Tid
  | .acquire t l => updH s.holder l (some t)
  | .release _ l => updH s.holder l none
  | .append t n => fun l => if l.gen = s.gens.length ∧ l.idx < n then some t else s.holder l
  | _ => s.holder

def gensAfter (s : PS) : Ev → List Nat
  | .append _ n => s.gens ++ [n]
  | _ => s.gens

theorem accept_shape {e : Ev} (h : accept s e = some s') :
    s'.rc = s.rc + bumpOf e ∧ s'.gens = gensAfter s e ∧ s'.holder = holderAfter s e ∧
    ∀ u, u ≠ e.tid → s'.th u = s.th u := by
  cases e with
  | rcLoad t => obtain ⟨_, rfl, -⟩ := accept_rcLoad_iff.1 h; exact ⟨rfl, rfl, rfl, fun u hu => upd_other hu⟩
  | hpLoad t => obtain ⟨-, rfl⟩ := accept_hpLoad_iff.1 h; exact ⟨rfl, rfl, rfl, fun u hu => upd_other hu⟩
  | genLoad t => obtain rfl := accept_genLoad_iff.1 h; exact ⟨rfl, rfl, rfl, fun u hu => upd_other hu⟩
  | acquire t l => obtain ⟨-, -, -, -, _, rfl, -⟩ := accept_acquire_iff.1 h; exact ⟨rfl, rfl, rfl, fun u hu => upd_other hu⟩
  | release t l => obtain ⟨-, -, -, _, rfl, -⟩ := accept_release_iff.1 h; exact ⟨rfl, rfl, rfl, fun u hu => upd_other hu⟩
  | access t i => obtain ⟨-, rfl⟩ := accept_access_iff.1 h; exact ⟨rfl, rfl, rfl, fun _ _ => rfl⟩
  | allBegin t => obtain ⟨-, rfl⟩ := accept_allBegin_iff.1 h; exact ⟨rfl, rfl, rfl, fun u hu => upd_other hu⟩
  | allEnd t => obtain ⟨-, rfl⟩ := accept_allEnd_iff.1 h; exact ⟨rfl, rfl, rfl, fun u hu => upd_other hu⟩
  | storeHp t v => obtain ⟨-, rfl⟩ := accept_storeHp_iff.1 h; exact ⟨rfl, rfl, rfl, fun u hu => upd_other hu⟩
  | append t n => obtain ⟨-, rfl⟩ := accept_append_iff.1 h; exact ⟨rfl, rfl, rfl, fun u hu => upd_other hu⟩
  | bumpRc t => obtain ⟨-, rfl⟩ := accept_bumpRc_iff.1 h; exact ⟨rfl, rfl, rfl, fun u hu => upd_other hu⟩
  | opEnd t k => obtain ⟨-, rfl⟩ := accept_opEnd_iff.1 h; exact ⟨rfl, rfl, rfl, fun _ _ => rfl⟩
  | sectionEnd t => obtain ⟨-, rfl⟩ := accept_sectionEnd_iff.1 h; exact ⟨rfl, rfl, rfl, fun _ _ => rfl⟩

theorem accept_rc {e : Ev} (h : accept s e = some s') : s'.rc = s.rc + bumpOf e := (accept_shape h).1

theorem accept_gens {e : Ev} (h : accept s e = some s') : s'.gens = gensAfter s e := (accept_shape h).2.1

theorem accept_holder_eq {e : Ev} (h : accept s e = some s') : s'.holder = holderAfter s e := (accept_shape h).2.2.1

theorem accept_others {e : Ev} (h : accept s e = some s') (u : Tid) (hu : u ≠ e.tid) : s'.th u = s.th u :=
  (accept_shape h).2.2.2 u hu

theorem run_cons_eq_some {e : Ev} {es : List Ev} :
    run s (e :: es) = some s' ↔ ∃ s1, accept s e = some s1 ∧ run s1 es = some s' := by
  rw [run]; cases accept s e <;> simp

end Cuckoo.Proto
