import Cuckoo.Proofs.ProtoSpec
/-!
The invariant `PInv` of the protocol transition system, thread by thread (`SInv`, `TInv`); the order on locks; and
what `PInv` excludes within one state.  That every reachable state satisfies it is `ProtoInv.lean`.
-/
namespace Cuckoo.Proto

/-- reachable from an initial state by an accepted trace -/
def Reach (s : PS) : Prop := ∃ hp n evs, 0 < n ∧ run (init hp n) evs = some s

/-- `held` lists are strictly descending (most recent = largest first) -/
def Desc : List LockId → Prop
  | [] => True
  | [_] => True
  | a :: b :: rest => b < a ∧ Desc (b :: rest)

/-- thread `z` holds every lock of lock array number `g` -/
def HoldsGen (s : PS) (z : Tid) (g : Nat) : Prop := ∀ i, i < s.gens.getD g 0 → s.holder ⟨g, i⟩ = some z

/-- a thread between its first lock and its validation holds exactly that lock; if its counter is still current,
the lock is in the current array and its snapshot is current -/
structure Pending (rc₀ hp₀ cur₀ : Nat) (x : TS) : Prop where
  one : ∃ l, x.held = [l] ∧ (x.snapRc = rc₀ → l.gen = cur₀)
  hp : x.snapRc = rc₀ → x.snapHp = hp₀
  gen : x.snapRc = rc₀ → x.snapGen = cur₀
  not_val : x.validated = false
  not_all : x.inAll = false
  not_owner : x.owner = false

/-- for a counter value `rc₁` other than the thread's snapshot the conditional clauses are void, whatever hashpower
and lock array they speak of -/
theorem Pending.stale {rc₀ hp₀ cur₀ : Nat} {x : TS} (h : Pending rc₀ hp₀ cur₀ x) {rc₁ : Nat} (hn : x.snapRc ≠ rc₁)
    (hp₁ cur₁ : Nat) : Pending rc₁ hp₁ cur₁ x :=
  { h with one := h.one.imp fun _ hl => ⟨hl.1, fun b => absurd b hn⟩, hp := fun b => absurd b hn,
           gen := fun b => absurd b hn }

/-- a validated thread holds locks of the current array only, at least one, and its snapshot is current -/
structure Validated (rc₀ hp₀ cur₀ : Nat) (x : TS) : Prop where
  ne : x.held ≠ []
  cur : ∀ l ∈ x.held, l.gen = cur₀
  rc : x.snapRc = rc₀
  hp : x.snapHp = hp₀
  gen : x.snapGen = cur₀
  not_all : x.inAll = false
  not_owner : x.owner = false

/-- what the invariant says of the snapshots and flags in the record `x` of thread `t` -/
structure SInv (s : PS) (t : Tid) (x : TS) : Prop where
  /-- snapshots never run ahead of the counter -/
  rc_le : x.snapRc ≤ s.rc
  gen_lt : x.snapGen < s.gens.length
  /-- a sound snapshot with a current counter has the current hashpower,
  unless a resizer is between its change and its counter bump -/
  snap_hp : x.hpOk = true → x.snapRc = s.rc → x.snapHp = s.hp ∨ ∃ z, (s.th z).dirty = true
  /-- … and saw the current lock array, unless a resizer that still holds all of the array it saw has appended one -/
  snap_gen : x.genOk = true → x.snapRc = s.rc →
    x.snapGen = s.curGen ∨ ∃ z, (s.th z).dirty = true ∧ HoldsGen s z x.snapGen
  pend : x.pendingVal = true → Pending s.rc s.hp s.curGen x
  val : x.validated = true → Validated s.rc s.hp s.curGen x
  /-- an owner holds every lock of the current array -/
  owner_all : x.owner = true → HoldsGen s t s.curGen ∧ x.inAll = false
  dirty_owner : x.dirty = true → x.owner = true

/-- … and of its list of locks: it is the thread's row of the lock table -/
structure TInv (s : PS) (t : Tid) (x : TS) : Prop extends SInv s t x where
  held_iff : ∀ l, l ∈ x.held ↔ s.holder l = some t
  held_desc : x.held.Pairwise (fun a b => b < a)

structure PInv (s : PS) : Prop where
  gens_ne : s.gens ≠ []
  gens_pos : ∀ n ∈ s.gens, 0 < n
  held_range : ∀ l t, s.holder l = some t → l.gen < s.gens.length ∧ l.idx < s.gens.getD l.gen 0
  thr : ∀ t, TInv s t (s.th t)

theorem LockId.lt_def (a b : LockId) : a < b ↔ (a.gen < b.gen ∨ (a.gen = b.gen ∧ a.idx < b.idx)) := Iff.rfl

theorem LockId.lt_irrefl (a : LockId) : ¬ a < a := by
  rw [LockId.lt_def]; omega

theorem LockId.lt_trans {a b c : LockId} (h1 : a < b) (h2 : b < c) : a < c := by
  rw [LockId.lt_def] at *; omega

theorem LockId.ne_of_lt {a b : LockId} (h : a < b) : a ≠ b := by
  intro e; subst e; exact LockId.lt_irrefl a h

theorem desc_iff_pairwise (l : List LockId) : Desc l ↔ l.Pairwise (fun a b => b < a) := by
  induction l with
  | nil => simp [Desc]
  | cons a rest ih =>
    cases rest with
    | nil => simp [Desc]
    | cons b rest' =>
      simp only [Desc, ih, List.pairwise_cons]
      constructor
      · rintro ⟨hba, hb, hr⟩
        refine ⟨?_, hb, hr⟩
        intro c hc
        rcases List.mem_cons.1 hc with rfl | hc
        · exact hba
        · exact LockId.lt_trans (hb c hc) hba
      · rintro ⟨ha, hb, hr⟩
        exact ⟨ha b (List.mem_cons_self ..), hb, hr⟩

theorem exists_maximal {α : Type} (f : α → LockId) : ∀ (L : List α), L ≠ [] → ∃ t₀ ∈ L, ∀ t ∈ L, ¬ f t₀ < f t := by
  intro L
  induction L with
  | nil => intro h; exact absurd rfl h
  | cons a rest ih =>
    intro _
    by_cases hr : rest = []
    · subst hr
      refine ⟨a, List.mem_cons_self .., ?_⟩
      intro t ht
      rw [List.mem_singleton.1 ht]; exact LockId.lt_irrefl _
    · obtain ⟨t₀, ht₀, hmax⟩ := ih hr
      by_cases hlt : f t₀ < f a
      · refine ⟨a, List.mem_cons_self .., ?_⟩
        intro t ht
        rcases List.mem_cons.1 ht with rfl | ht
        · exact LockId.lt_irrefl _
        · intro hat; exact hmax t ht (LockId.lt_trans hlt hat)
      · refine ⟨t₀, List.mem_cons_of_mem _ ht₀, ?_⟩
        intro t ht
        rcases List.mem_cons.1 ht with rfl | ht
        · exact hlt
        · exact hmax t ht

theorem curSize_eq (s : PS) (h : s.gens ≠ []) : s.gens.getD s.curGen 0 = s.curSize := by
  unfold PS.curGen PS.curSize
  cases hg : s.gens with
  | nil => exact absurd hg h
  | cons a l =>
    rw [List.getLastD_eq_getLast?, List.getLast?_eq_getElem?, List.getD_eq_getElem?_getD]

theorem curGen_congr {s s' : PS} (h : s'.gens = s.gens) : s'.curGen = s.curGen := by
  unfold PS.curGen; rw [h]

theorem curGen_lt (s : PS) (h : s.gens ≠ []) : s.curGen < s.gens.length := by
  unfold PS.curGen
  have : 0 < s.gens.length := List.length_pos_iff.2 h
  omega

theorem holdsAllCur_iff (s : PS) (t : Tid) :
    s.holdsAllCur t = true ↔ ∀ i, i < s.curSize → s.holder ⟨s.curGen, i⟩ = some t := by
  simp [PS.holdsAllCur, List.all_eq_true]

theorem holdsGen_cur_iff (s : PS) (h : s.gens ≠ []) (t : Tid) :
    HoldsGen s t s.curGen ↔ s.holdsAllCur t = true := by
  rw [holdsAllCur_iff, HoldsGen, curSize_eq s h]

namespace PInv
variable {s : PS}

theorem curSize_pos (h : PInv s) : 0 < s.curSize := by
  rw [← curSize_eq s h.gens_ne]
  apply h.gens_pos
  rw [List.getD_eq_getElem?_getD, List.getElem?_eq_getElem (curGen_lt s h.gens_ne)]
  simp

theorem holdsGen_cur_zero (h : PInv s) {z : Tid} (hz : HoldsGen s z s.curGen) : s.holder ⟨s.curGen, 0⟩ = some z :=
  hz 0 (by rw [curSize_eq s h.gens_ne]; exact h.curSize_pos)

theorem holdsGen_eq (h : PInv s) {z t : Tid} {l : LockId} (hz : HoldsGen s z l.gen) (hl : l ∈ (s.th t).held) : z = t := by
  have h1 := ((h.thr t).held_iff l).1 hl
  have h2 : s.holder l = some z := hz l.idx (h.held_range l t h1).2
  exact Option.some.inj (h2.symm.trans h1)

theorem owner_holds (h : PInv s) {z : Tid} (hz : (s.th z).owner = true) {i : Nat} (hi : i < s.curSize) :
    s.holder ⟨s.curGen, i⟩ = some z :=
  ((h.thr z).owner_all hz).1 i (by rw [curSize_eq s h.gens_ne]; exact hi)

theorem owner_held (h : PInv s) {z : Tid} (hz : (s.th z).owner = true) : (⟨s.curGen, 0⟩ : LockId) ∈ (s.th z).held :=
  ((h.thr z).held_iff _).2 (h.holdsGen_cur_zero ((h.thr z).owner_all hz).1)

theorem owner_unique (h : PInv s) {z z' : Tid} (hz : (s.th z).owner = true) (hz' : (s.th z').owner = true) : z = z' := by
  have h1 := ((h.thr z).held_iff _).1 (h.owner_held hz)
  have h2 := ((h.thr z').held_iff _).1 (h.owner_held hz')
  rw [h1] at h2; exact Option.some.inj h2

theorem owner_holds_cur (h : PInv s) {z t : Tid} (hz : (s.th z).owner = true) {l : LockId} (hl : l ∈ (s.th t).held)
    (hg : l.gen = s.curGen) : z = t := by
  apply h.holdsGen_eq (l := l) _ hl
  rw [hg]; exact ((h.thr z).owner_all hz).1

theorem owner_not_val (h : PInv s) {z t : Tid} (hz : (s.th z).owner = true) (ht : (s.th t).validated = true) : False := by
  have hv := (h.thr t).val ht
  obtain ⟨l, hl⟩ := List.exists_mem_of_ne_nil _ hv.ne
  have := h.owner_holds_cur hz hl (hv.cur l hl)
  subst this
  exact Bool.noConfusion (hz.symm.trans hv.not_owner)

theorem owner_not_pend (h : PInv s) {z t : Tid} (hz : (s.th z).owner = true) (ht : (s.th t).pendingVal = true)
    (hrc : (s.th t).snapRc = s.rc) : False := by
  obtain ⟨l, hl, hc⟩ := ((h.thr t).pend ht).one
  have := h.owner_holds_cur hz (l := l) (by rw [hl]; exact List.mem_cons_self ..) (hc hrc)
  subst this
  exact Bool.noConfusion (hz.symm.trans ((h.thr z).pend ht).not_owner)

theorem held_nil_iff (h : PInv s) (t : Tid) : (s.th t).held = [] ↔ ∀ l, s.holder l ≠ some t := by
  rw [List.eq_nil_iff_forall_not_mem]
  exact forall_congr' fun l => not_congr ((h.thr t).held_iff l)

end PInv

end Cuckoo.Proto
