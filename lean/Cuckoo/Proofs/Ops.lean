import Cuckoo.Proofs.Resize
import Cuckoo.Proofs.SpecMap
import Cuckoo.Model.Conc
/-!
The operations against the abstract map.  What a call must do, as functions (`upraseSpec`, `tailSpec`, `fnOpSpec`) with
their equations; `Sim c t t' m'` (invariant, representation, `Keeps`) through the primitive mutations, the lookup
`locate` and the functor tail shared by the public operations and the sections of the concurrent model (`applyFn_sim`,
`finishInsert_sim`, `fnOp_sim`; everything about one inserting call: `uprase_full`); `clear` and the setters.
-/
namespace Cuckoo.Props.C02
open Cuckoo Cuckoo.Model Cuckoo.Spec
variable {κ ν : Type} [DecidableEq κ]

/-- what `uprase_fn` / `upsert` / `insert` / `insert_or_assign` must do to the abstract map, given the
functor `fn`, whether it accepts a context, and whether its result may erase -/
def upraseSpec (m : AMap κ ν) (k : κ) (v : ν) (ctxAware mayErase : Bool) (fn : Ctx → ν → FnOut ν) :
    Res Bool × List (Call ν) × AMap κ ν :=
  match m.lookup k with
  | some old =>
    let call : Call ν := ⟨if ctxAware then some .alreadyExisted else none, old⟩
    match fn .alreadyExisted old with
    | .ret v' er => (.ok false, [call], if mayErase && er then m.erase k else m.set k v')
    | .throw v' => (.err .fnThrow, [call], m.set k v')
  | none =>
    if ctxAware then
      let call : Call ν := ⟨some .newlyInserted, v⟩
      match fn .newlyInserted v with
      | .ret v' er => (.ok true, [call], if mayErase && er then m else m.add k v')
      | .throw v' => (.err .fnThrow, [call], m.add k v')
    else (.ok true, [], m.add k v)

/-- what the functor tail (`applyFn`) must do to the abstract map and report, the functor seeing the value `old` stored
under `k`: the abstract counterpart of `applyFn`, as `upraseSpec` is that of `uprase` -/
def tailSpec (m : AMap κ ν) (k : κ) (old : ν) (ctx : Option Ctx) (me : Bool) (fn : ν → FnOut ν) (okRes : Bool) :
    Res Bool × List (Call ν) × AMap κ ν :=
  match fn old with
  | .ret v' er => (.ok okRes, [⟨ctx, old⟩], if me && er then m.erase k else m.set k v')
  | .throw v' => (.err .fnThrow, [⟨ctx, old⟩], m.set k v')

theorem tailSpec_calls (m : AMap κ ν) (k : κ) (old : ν) (ctx : Option Ctx) (me : Bool) (fn : ν → FnOut ν) (okRes : Bool) :
    (tailSpec m k old ctx me fn okRes).2.1 = [⟨ctx, old⟩] := by
  unfold tailSpec; cases fn old <;> rfl

theorem tailSpec_res (m : AMap κ ν) (k : κ) (old : ν) (ctx : Option Ctx) (me : Bool) (fn : ν → FnOut ν) (okRes : Bool) :
    (tailSpec m k old ctx me fn okRes).1 = .ok okRes ∨ (tailSpec m k old ctx me fn okRes).1 = .err .fnThrow := by
  unfold tailSpec; cases fn old <;> simp

/-- what `find_fn` / `update_fn` / `erase_fn` must do -/
def fnOpSpec (m : AMap κ ν) (ce : Bool) (k : κ) (fn : ν → FnOut ν) : Res Bool × List (Call ν) × AMap κ ν :=
  match m.lookup k with
  | none => (.ok false, [], m)
  | some v => tailSpec m k v none ce fn true

theorem fnOpSpec_none {m : AMap κ ν} {k : κ} (hk : m.lookup k = none) (ce : Bool) (fn : ν → FnOut ν) :
    fnOpSpec m ce k fn = (.ok false, [], m) := by
  unfold fnOpSpec; rw [hk]

theorem fnOpSpec_some {m : AMap κ ν} {k : κ} {v : ν} (hk : m.lookup k = some v) (ce : Bool) (fn : ν → FnOut ν) :
    fnOpSpec m ce k fn = tailSpec m k v none ce fn true := by
  unfold fnOpSpec; rw [hk]

theorem upraseSpec_some {m : AMap κ ν} {k : κ} {old : ν} (hk : m.lookup k = some old) (v : ν) (ca me : Bool)
    (fn : Ctx → ν → FnOut ν) :
    upraseSpec m k v ca me fn =
      tailSpec m k old (if ca then some .alreadyExisted else none) me (fn .alreadyExisted) false := by
  unfold upraseSpec; rw [hk]; rfl

/-- a context-aware functor on an absent key: the functor tail on the map with the new pair -/
theorem upraseSpec_none_ctx {m : AMap κ ν} {k : κ} (hk : m.lookup k = none) (v : ν) (me : Bool)
    (fn : Ctx → ν → FnOut ν) :
    upraseSpec m k v true me fn = tailSpec (m.add k v) k v (some .newlyInserted) me (fn .newlyInserted) true := by
  unfold upraseSpec tailSpec; rw [hk]; dsimp only; rw [if_pos rfl]
  cases fn .newlyInserted v with
  | ret v' er => dsimp only; rw [AMap.add_erase m k v hk, AMap.add_set m k v v' hk]
  | throw v' => dsimp only; rw [AMap.add_set m k v v' hk]

theorem upraseSpec_none {m : AMap κ ν} {k : κ} (hk : m.lookup k = none) (v : ν) (ca me : Bool)
    (fn : Ctx → ν → FnOut ν) :
    upraseSpec m k v ca me fn =
      if ca then
        match fn .newlyInserted v with
        | .ret v' er => (.ok true, [⟨some .newlyInserted, v⟩], if me && er then m else m.add k v')
        | .throw v' => (.err .fnThrow, [⟨some .newlyInserted, v⟩], m.add k v')
      else (.ok true, [], m.add k v) := by
  unfold upraseSpec; rw [hk]

theorem upraseSpec_res (m : AMap κ ν) (k : κ) (v : ν) (ca me : Bool) (fn : Ctx → ν → FnOut ν) :
    (upraseSpec m k v ca me fn).1 = .ok (m.lookup k).isNone ∨ (upraseSpec m k v ca me fn).1 = .err .fnThrow := by
  cases hk : m.lookup k with
  | some old => rw [upraseSpec_some hk]; exact tailSpec_res ..
  | none =>
    cases ca with
    | false => rw [upraseSpec_none hk]; exact .inl rfl
    | true => rw [upraseSpec_none_ctx hk]; exact tailSpec_res ..

theorem upraseSpec_ok {m : AMap κ ν} {k : κ} {v : ν} {ca me : Bool} {fn : Ctx → ν → FnOut ν} {b : Bool}
    (h : (upraseSpec m k v ca me fn).1 = .ok b) : b = (m.lookup k).isNone := by
  rcases upraseSpec_res m k v ca me fn with x | x <;> rw [x] at h <;> cases h
  rfl

theorem upraseSpec_err {m : AMap κ ν} {k : κ} {v : ν} {ca me : Bool} {fn : Ctx → ν → FnOut ν} {e : Err}
    (h : (upraseSpec m k v ca me fn).1 = .err e) : e = .fnThrow := by
  rcases upraseSpec_res m k v ca me fn with x | x <;> rw [x] at h <;> cases h
  rfl

end Cuckoo.Props.C02

namespace Cuckoo.Model.SchedA
open Cuckoo.Model.Conc
variable {κ ν : Type} [DecidableEq κ]

-- stands here because `uprase_eq_fin` below states `uprase` by it; the schedules of Proofs/Sched end with the same tail
/-- the tail of `uprase_fn` after `cuckoo_insert_loop`, as table and response -/
def fin (c : Cfg κ) (k : κ) (v : ν) (ca me : Bool) (fn : Ctx → ν → FnOut ν) (r : Table κ ν × Res InsPos) :
    Table κ ν × Resp ν :=
  match r with
  | (t, .err e) => (t, .bool (.err e) [])
  | (t, .ok pos) => finishInsert c t k v ca me fn pos

end Cuckoo.Model.SchedA

namespace Cuckoo.Model
open Cuckoo Cuckoo.Spec Cuckoo.Model.Conc Cuckoo.Props.C02
variable {κ ν : Type} [DecidableEq κ]

theorem rel_lookup_of_live {c : Cfg κ} {t : Table κ ν} {m : AMap κ ν} (hr : Rel c t m) {sl : Slot κ ν}
    (hl : t.Live c sl) : m.lookup sl.key = some sl.val := by
  rw [AMap.lookup_eq_some_iff m hr.nodup]
  exact (hr.pairs _ _).mpr ⟨sl.tag, hl⟩

theorem rel_lookup_none {c : Cfg κ} {t : Table κ ν} {m : AMap κ ν} (hr : Rel c t m) {k : κ}
    (hn : ∀ tag v, ¬ t.Live c ⟨tag, k, v⟩) : m.lookup k = none := by
  rw [AMap.lookup_eq_none_iff]
  intro v hv
  obtain ⟨tag, hl⟩ := (hr.pairs k v).mp hv
  exact hn tag v hl

theorem rel_add {c : Cfg κ} {t t' : Table κ ν} {m : AMap κ ν} (hr : Rel c t m) {tg : Nat} {k : κ} {v : ν}
    (hlive : ∀ sl, t'.Live c sl ↔ (t.Live c sl ∨ sl = ⟨tg, k, v⟩))
    (hsum : t'.sumCnt = t.sumCnt + 1) (hnone : m.lookup k = none) : Rel c t' (m.add k v) := by
  refine ⟨?_, AMap.nodup_add m hr.nodup k v hnone, ?_⟩
  · intro k' v'
    unfold AMap.add
    rw [List.mem_cons, hr.pairs]
    constructor
    · rintro (e | ⟨tag, hl⟩)
      · cases e; exact ⟨tg, (hlive _).mpr (.inr rfl)⟩
      · exact ⟨tag, (hlive _).mpr (.inl hl)⟩
    · rintro ⟨tag, hl⟩
      rcases (hlive _).mp hl with h1 | h1
      · exact .inr ⟨tag, h1⟩
      · cases h1; exact .inl rfl
  · rw [hsum, hr.count]
    unfold AMap.add
    rw [List.length_cons]
    omega

theorem rel_erase {c : Cfg κ} {t t' : Table κ ν} {m : AMap κ ν} (hr : Rel c t m) {k : κ} {v : ν}
    (hlive : ∀ x, t'.Live c x ↔ (t.Live c x ∧ x.key ≠ k))
    (hsum : t'.sumCnt = t.sumCnt - 1) (hmem : m.lookup k = some v) : Rel c t' (m.erase k) := by
  refine ⟨?_, AMap.nodup_erase m hr.nodup k, ?_⟩
  · intro k' v'
    rw [AMap.mem_erase, hr.pairs]
    constructor
    · rintro ⟨⟨tag, hl⟩, hne⟩; exact ⟨tag, (hlive _).mpr ⟨hl, hne⟩⟩
    · rintro ⟨tag, hl⟩
      obtain ⟨h1, h2⟩ := (hlive _).mp hl
      exact ⟨⟨tag, h1⟩, h2⟩
  · have := AMap.length_erase_of_mem m hr.nodup k v ((AMap.lookup_eq_some_iff m hr.nodup k v).mp hmem)
    rw [hsum, hr.count]
    omega

theorem rel_set {c : Cfg κ} {t t' : Table κ ν} {m : AMap κ ν} (hr : Rel c t m) {sl : Slot κ ν} {v : ν}
    (hl : t.Live c sl)
    (hlive : ∀ x, t'.Live c x ↔ ((t.Live c x ∧ x.key ≠ sl.key) ∨ x = { sl with val := v }))
    (hsum : t'.sumCnt = t.sumCnt) : Rel c t' (m.set sl.key v) := by
  refine ⟨?_, AMap.nodup_set m hr.nodup _ v, ?_⟩
  · intro k' v'
    rw [AMap.mem_set, hr.pairs]
    constructor
    · rintro (⟨⟨tag, h1⟩, hne⟩ | ⟨rfl, rfl, _⟩)
      · exact ⟨tag, (hlive _).mpr (.inl ⟨h1, hne⟩)⟩
      · exact ⟨sl.tag, (hlive _).mpr (.inr rfl)⟩
    · rintro ⟨tag, h1⟩
      rcases (hlive _).mp h1 with ⟨h2, hne⟩ | h2
      · exact .inl ⟨⟨tag, h2⟩, hne⟩
      · injection h2 with e1 e2 e3
        exact .inr ⟨e2, e3, sl.val, (hr.pairs _ _).mpr ⟨sl.tag, hl⟩⟩
  · rw [hsum, hr.count, AMap.length_set]

theorem setVal_sim (c : Cfg κ) (t : Table κ ν) (m : AMap κ ν) (b s : Nat) (sl : Slot κ ν) (v : ν)
    (h : Inv c t) (hr : Rel c t m) (hget : t.cur.get c.S b s = some sl) :
    Sim c t (t.setVal c b s v) (m.set sl.key v) ∧ (t.setVal c b s v).cur.get c.S b s = some { sl with val := v } := by
  obtain ⟨a1, a2, a3, a4, a5⟩ := setVal_spec c t b s sl v h hget
  exact ⟨⟨a1, rel_set hr ⟨.cur b s, hget⟩ a2 a3, a5⟩, a4⟩

theorem delFrom_sim (c : Cfg κ) (t : Table κ ν) (m : AMap κ ν) (b s : Nat) (sl : Slot κ ν)
    (h : Inv c t) (hr : Rel c t m) (hget : t.cur.get c.S b s = some sl) :
    Sim c t (t.delFrom c b s) (m.erase sl.key) := by
  obtain ⟨a1, a2, a3, a4⟩ := delFrom_spec c t b s sl h hget
  exact ⟨a1, rel_erase hr a2 a3 (rel_lookup_of_live hr ⟨.cur b s, hget⟩), a4⟩

theorem addTo_sim (c : Cfg κ) (t : Table κ ν) (m : AMap κ ν) (b s : Nat) (k : κ) (v : ν)
    (h : Inv c t) (hr : Rel c t m) (hins : InsOK c t k (.free b s)) :
    Sim c t (t.addTo c b s ⟨c.tag k, k, v⟩) (m.add k v) ∧
    (t.addTo c b s ⟨c.tag k, k, v⟩).cur.get c.S b s = some ⟨c.tag k, k, v⟩ ∧ m.lookup k = none := by
  obtain ⟨a1, a2, a3, a4⟩ := addTo_spec c t b s k v h hins
  obtain ⟨hb, hs, _, _, hfresh⟩ := hins
  have hnone := rel_lookup_none hr hfresh
  have hblt : b < 2 ^ t.hp := cand_lt hb
  refine ⟨⟨a1, rel_add hr a2 a3 hnone, a4⟩, ?_, hnone⟩
  have := upd_get (t := t) (some ⟨c.tag k, k, v⟩) 1 hs (cell_lt h hblt hs) b s
  rw [if_pos ⟨rfl, rfl⟩] at this
  exact this

theorem locate_sim (c : Cfg κ) (locked : Bool) (t : Table κ ν) (m : AMap κ ν) (k : κ)
    (h : Inv c t) (hr : Rel c t m) (hl : locked = true → AllMig t) :
    ∀ {t1 pos}, t.locate c locked k = (t1, pos) → Sim c t t1 m ∧
    match pos with
    | some (b, s) => ∃ sl, t1.cur.get c.S b s = some sl ∧ sl.key = k ∧ m.lookup k = some sl.val
    | none => m.lookup k = none := by
  rintro _ _ ⟨⟩
  obtain ⟨st, a4, a5⟩ := lockTwoM_step c locked t (c.i1 t.hp k) (c.i2 t.hp k) h hl
  have hr' := hr.of_same st.same
  refine ⟨⟨st.inv, hr', st.keeps⟩, ?_⟩
  generalize t.lockTwoM c locked (c.i1 t.hp k) (c.i2 t.hp k) = t1 at *
  have hf := cuckooFind_spec c t1 k st.inv st.keeps.hp a4 a5
  split
  · rename_i b s hfind
    rw [hfind] at hf
    obtain ⟨sl, hg, hk, _⟩ := hf
    exact ⟨sl, hg, hk, hk ▸ rel_lookup_of_live hr' ⟨.cur b s, hg⟩⟩
  · rename_i hfind
    rw [hfind] at hf
    exact rel_lookup_none hr' hf

/-! `find_fn` / `update_fn` / `erase_fn` is `locate` followed by `applyFn`; `uprase_fn` is `cuckoo_insert_loop` followed
by `finishInsert`.  The sections of the concurrent model end with the same two functions. -/

omit [DecidableEq κ] in
theorem applyFn_some {c : Cfg κ} {t : Table κ ν} {b s : Nat} {sl : Slot κ ν} (hget : t.cur.get c.S b s = some sl)
    (ctx : Option Ctx) (me : Bool) (fn : ν → FnOut ν) (okRes : Bool) :
    applyFn c t b s ctx me fn okRes =
      match fn sl.val with
      | .throw v' => (t.setVal c b s v', .bool (.err .fnThrow) [⟨ctx, sl.val⟩])
      | .ret v' er => (if me && er then (t.setVal c b s v').delFrom c b s else t.setVal c b s v',
          .bool (.ok okRes) [⟨ctx, sl.val⟩]) := by
  unfold applyFn; rw [hget]; dsimp only
  cases fn sl.val <;> rfl

theorem applyFn_sim (c : Cfg κ) (t : Table κ ν) (m : AMap κ ν) (b s : Nat) (sl : Slot κ ν) (ctx : Option Ctx)
    (me : Bool) (fn : ν → FnOut ν) (okRes : Bool)
    (h : Inv c t) (hr : Rel c t m) (hget : t.cur.get c.S b s = some sl) :
    Sim c t (applyFn c t b s ctx me fn okRes).1 (tailSpec m sl.key sl.val ctx me fn okRes).2.2 ∧
    (applyFn c t b s ctx me fn okRes).2 =
      .bool (tailSpec m sl.key sl.val ctx me fn okRes).1 (tailSpec m sl.key sl.val ctx me fn okRes).2.1 := by
  rw [applyFn_some hget]
  unfold tailSpec
  have sv := fun v' => setVal_sim c t m b s sl v' h hr hget
  cases fn sl.val with
  | throw v' => exact ⟨(sv v').1, rfl⟩
  | ret v' er =>
    dsimp only
    cases (me && er) with
    | false => exact ⟨(sv v').1, rfl⟩
    | true =>
      obtain ⟨a, hg⟩ := sv v'
      exact ⟨AMap.set_erase m sl.key v' ▸ a.trans (delFrom_sim c _ _ b s { sl with val := v' } a.inv a.rel hg), rfl⟩

/-- the tail of `uprase_fn` against `upraseSpec`, in any table in which `p` is a right answer of the insertion loop -/
theorem finishInsert_sim (c : Cfg κ) (t : Table κ ν) (m : AMap κ ν) (k : κ) (v : ν) (ca me : Bool)
    (fn : Ctx → ν → FnOut ν) (p : InsPos) (h : Inv c t) (hr : Rel c t m) (hins : InsOK c t k p) :
    Sim c t (finishInsert c t k v ca me fn p).1 (upraseSpec m k v ca me fn).2.2 ∧
    (finishInsert c t k v ca me fn p).2 = .bool (upraseSpec m k v ca me fn).1 (upraseSpec m k v ca me fn).2.1 ∧
    (m.lookup k).isNone = (match p with | .free _ _ => true | .dup _ _ => false) := by
  cases p with
  | free b s =>
    obtain ⟨a, hg, hk⟩ := addTo_sim c t m b s k v h hr hins
    rw [hk]
    unfold finishInsert
    cases ca with
    | false => rw [upraseSpec_none hk]; exact ⟨a, rfl, rfl⟩
    | true =>
      obtain ⟨d, e⟩ := applyFn_sim c _ (m.add k v) b s _ (some .newlyInserted) me (fn .newlyInserted) true a.inv a.rel hg
      rw [upraseSpec_none_ctx hk]
      exact ⟨a.trans d, e, rfl⟩
  | dup b s =>
    obtain ⟨_, sl, hg, rfl⟩ := hins
    have hk := rel_lookup_of_live hr ⟨.cur b s, hg⟩
    obtain ⟨d, e⟩ := applyFn_sim c t m b s sl (if ca then some .alreadyExisted else none) me (fn .alreadyExisted) false
      h hr hg
    rw [upraseSpec_some hk, hk]
    exact ⟨d, e, rfl⟩

/-- `uprase_fn` = `cuckoo_insert_loop`, then `finishInsert`; the arguments are consumed iff the loop found a free slot -/
theorem uprase_eq_fin (c : Cfg κ) (locked : Bool) (t : Table κ ν) (k : κ) (v : ν) (ca me : Bool)
    (fn : Ctx → ν → FnOut ν) :
    (t.uprase c locked k v ca me fn).1 =
      (SchedA.fin c k v ca me fn (insertLoop c locked (c.fuel t.cur.cells.size) t k)).1 ∧
    Resp.bool (t.uprase c locked k v ca me fn).2.1.res (t.uprase c locked k v ca me fn).2.1.calls =
      (SchedA.fin c k v ca me fn (insertLoop c locked (c.fuel t.cur.cells.size) t k)).2 ∧
    (t.uprase c locked k v ca me fn).2.1.consumed =
      (match (insertLoop c locked (c.fuel t.cur.cells.size) t k).2 with | .ok (.free _ _) => true | _ => false) := by
  unfold Table.uprase SchedA.fin
  rcases insertLoop c locked (c.fuel t.cur.cells.size) t k with ⟨t1, pos | e⟩
  · cases pos with
    | free b s =>
      cases ca with
      | false => exact ⟨rfl, rfl, rfl⟩
      | true =>
        simp only [finishInsert, applyFn, Bool.true_or, if_true]
        cases (t1.addTo c b s ⟨c.tag k, k, v⟩).cur.get c.S b s with
        | none => exact ⟨rfl, rfl, rfl⟩
        | some sl => dsimp only; cases fn .newlyInserted sl.val <;> exact ⟨rfl, rfl, rfl⟩
    | dup b s =>
      simp only [finishInsert, applyFn]
      cases ca <;>
      · cases t1.cur.get c.S b s with
        | none => exact ⟨rfl, rfl, rfl⟩
        | some sl => dsimp only; cases fn .alreadyExisted sl.val <;> exact ⟨rfl, rfl, rfl⟩
  · exact ⟨rfl, rfl, rfl⟩

theorem uprase_err (c : Cfg κ) (locked : Bool) (t : Table κ ν) (k : κ) (v : ν) (ca me : Bool) (fn : Ctx → ν → FnOut ν)
    (e : Err) (he : (insertLoop c locked (c.fuel t.cur.cells.size) t k).2 = .err e) :
    (t.uprase c locked k v ca me fn).2.1 = { res := .err e } := by
  unfold Table.uprase
  generalize insertLoop c locked (c.fuel t.cur.cells.size) t k = r at he
  obtain ⟨t1, pos | e'⟩ := r
  · cases he
  · cases he; rfl

omit [DecidableEq κ] in
theorem applyFn_hp (c : Cfg κ) (t : Table κ ν) (b s : Nat) (ctx : Option Ctx) (me : Bool) (fn : ν → FnOut ν)
    (okRes : Bool) : (applyFn c t b s ctx me fn okRes).1.hp = t.hp := by
  unfold applyFn
  split
  · rfl
  · split
    · exact setVal_hp ..
    · dsimp only
      split
      · exact (delFrom_hp ..).trans (setVal_hp ..)
      · exact setVal_hp ..

theorem finishInsert_hp (c : Cfg κ) (t : Table κ ν) (k : κ) (v : ν) (ca me : Bool)
    (fn : Ctx → ν → FnOut ν) (p : InsPos) : (finishInsert c t k v ca me fn p).1.hp = t.hp := by
  cases p <;> unfold finishInsert
  · dsimp only
    split
    · exact (applyFn_hp ..).trans (addTo_hp ..)
    · rfl
  · exact applyFn_hp ..

theorem uprase_hp (c : Cfg κ) (locked : Bool) (t : Table κ ν) (k : κ) (v : ν)
    (ctxAware mayErase : Bool) (fn : Ctx → ν → FnOut ν) :
    (t.uprase c locked k v ctxAware mayErase fn).1.hp =
      (insertLoop c locked (c.fuel t.cur.cells.size) t k).1.hp := by
  rw [(uprase_eq_fin c locked t k v ctxAware mayErase fn).1]
  unfold SchedA.fin
  rcases insertLoop c locked (c.fuel t.cur.cells.size) t k with ⟨t1, p | e⟩
  · exact finishInsert_hp ..
  · rfl

/-- everything about one inserting call: either the insertion loop failed, nothing was called or consumed and the
contents are unchanged, or the call did what `upraseSpec` says and consumed its arguments iff the key was absent -/
theorem uprase_full (c : Cfg κ) (locked : Bool) (t : Table κ ν) (m : AMap κ ν) (k : κ) (v : ν)
    (ca me : Bool) (fn : Ctx → ν → FnOut ν)
    (h : Inv c t) (hr : Rel c t m) (hl : locked = true → AllMig t) :
    Inv c (t.uprase c locked k v ca me fn).1 ∧
    (locked = true → AllMig (t.uprase c locked k v ca me fn).1) ∧
    ((∃ e, (t.uprase c locked k v ca me fn).2.1.res = .err e ∧ ResizeErr e ∧
          (t.uprase c locked k v ca me fn).2.1.calls = [] ∧
          (t.uprase c locked k v ca me fn).2.1.consumed = false ∧
          Rel c (t.uprase c locked k v ca me fn).1 m) ∨
     ((t.uprase c locked k v ca me fn).2.1.res = (upraseSpec m k v ca me fn).1 ∧
      (t.uprase c locked k v ca me fn).2.1.calls = (upraseSpec m k v ca me fn).2.1 ∧
      (t.uprase c locked k v ca me fn).2.1.consumed = (m.lookup k).isNone ∧
      Rel c (t.uprase c locked k v ca me fn).1 (upraseSpec m k v ca me fn).2.2)) := by
  have a := insertLoop_post c locked (c.fuel t.cur.cells.size) t k h hl
  have hr1 := hr.of_same a.same
  obtain ⟨u1, u2, u3⟩ := uprase_eq_fin c locked t k v ca me fn
  rw [u1]
  generalize t.uprase c locked k v ca me fn = U at u2 u3 ⊢
  generalize insertLoop c locked (c.fuel t.cur.cells.size) t k = r at a hr1 u2 u3 ⊢
  obtain ⟨t1, p | e⟩ := r
  · obtain ⟨f, f3, f5⟩ := finishInsert_sim c t1 m k v ca me fn p a.inv hr1 a.res.2
    obtain ⟨e1, e2⟩ := Resp.bool.inj (u2.trans f3)
    refine ⟨f.inv, fun hh => f.keeps.allmig (a.allmig hh), .inr ⟨e1, e2, ?_, f.rel⟩⟩
    rw [u3, f5]
    cases p <;> rfl
  · obtain ⟨e1, e2⟩ := Resp.bool.inj u2
    exact ⟨a.inv, a.allmig, .inl ⟨e, e1, a.res.2, e2, u3, hr1⟩⟩

/-- a call that ends with an error other than the functor's exception failed in the insertion loop: nothing was
called or consumed and the contents are unchanged -/
theorem uprase_failed (c : Cfg κ) (locked : Bool) (t : Table κ ν) (m : AMap κ ν) (k : κ) (v : ν)
    (ca me : Bool) (fn : Ctx → ν → FnOut ν) (h : Inv c t) (hr : Rel c t m) (hl : locked = true → AllMig t)
    (e : Err) (he : (t.uprase c locked k v ca me fn).2.1.res = .err e) (hne : e ≠ .fnThrow) :
    Inv c (t.uprase c locked k v ca me fn).1 ∧ Rel c (t.uprase c locked k v ca me fn).1 m ∧
    (t.uprase c locked k v ca me fn).2.1.calls = [] ∧ (t.uprase c locked k v ca me fn).2.1.consumed = false := by
  obtain ⟨a1, _, ⟨_, _, _, r3, r4, r5⟩ | ⟨r1, _⟩⟩ := uprase_full c locked t m k v ca me fn h hr hl
  · exact ⟨a1, r5, r3, r4⟩
  · exact absurd (upraseSpec_err (r1 ▸ he)) hne

theorem uprase_ok (c : Cfg κ) (locked : Bool) (t : Table κ ν) (m : AMap κ ν) (k : κ) (v : ν)
    (ca me : Bool) (fn : Ctx → ν → FnOut ν) (h : Inv c t) (hr : Rel c t m) (hl : locked = true → AllMig t)
    (b : Bool) (hb : (t.uprase c locked k v ca me fn).2.1.res = .ok b) :
    b = (m.lookup k).isNone ∧ (t.uprase c locked k v ca me fn).2.1.consumed = b ∧
    Rel c (t.uprase c locked k v ca me fn).1 (upraseSpec m k v ca me fn).2.2 := by
  obtain ⟨_, _, ⟨e, r1, _⟩ | ⟨r1, _, r3, r4⟩⟩ := uprase_full c locked t m k v ca me fn h hr hl
  · rw [hb] at r1; cases r1
  · have e := upraseSpec_ok (r1 ▸ hb)
    exact ⟨e, r3.trans e.symm, r4⟩

/-- `find_fn` / `update_fn` / `erase_fn` on a key that `locate` found = `applyFn` at that position -/
theorem fnOp_found {c : Cfg κ} {t t1 : Table κ ν} {k : κ} {b s : Nat} {sl : Slot κ ν}
    (hloc : t.locate c false k = (t1, some (b, s))) (hg : t1.cur.get c.S b s = some sl) (ce : Bool) (fn : ν → FnOut ν) :
    (t.fnOp c ce k fn).1 = (applyFn c t1 b s none ce fn true).1 ∧
    Resp.bool (t.fnOp c ce k fn).2.res (t.fnOp c ce k fn).2.calls = (applyFn c t1 b s none ce fn true).2 := by
  rw [applyFn_some hg]; unfold Table.fnOp; rw [hloc]; dsimp only; rw [hg]; dsimp only
  cases fn sl.val <;> exact ⟨rfl, rfl⟩

theorem fnOp_sim (c : Cfg κ) (canErase : Bool) (t : Table κ ν) (m : AMap κ ν) (k : κ) (fn : ν → FnOut ν)
    (h : Inv c t) (hr : Rel c t m) :
    Sim c t (t.fnOp c canErase k fn).1 (fnOpSpec m canErase k fn).2.2 ∧
    (t.fnOp c canErase k fn).2.res = (fnOpSpec m canErase k fn).1 ∧
    (t.fnOp c canErase k fn).2.calls = (fnOpSpec m canErase k fn).2.1 := by
  rcases hloc : t.locate c false k with ⟨t1, pos⟩
  obtain ⟨a, a4⟩ := locate_sim c false t m k h hr nofun hloc
  unfold fnOpSpec
  rcases pos with _ | ⟨b, s⟩
  · have e : t.fnOp c canErase k fn = (t1, { res := .ok false }) := by unfold Table.fnOp; rw [hloc]
    rw [e, a4]
    exact ⟨a, rfl, rfl⟩
  · obtain ⟨sl, hg, rfl, hlook⟩ := a4
    obtain ⟨u1, u2⟩ := fnOp_found hloc hg canErase fn
    obtain ⟨d, e⟩ := applyFn_sim c t1 m b s sl none canErase fn true a.inv a.rel hg
    obtain ⟨e1, e2⟩ := Resp.bool.inj (u2.trans e)
    rw [hlook, u1]
    exact ⟨a.trans d, e1, e2⟩

omit [DecidableEq κ] in
theorem clear_spec (c : Cfg κ) (t : Table κ ν) (h : Inv c t) : Rz.Empty c (t.clear c) := by
  have hsz : (t.clear c).locks.size = t.locks.size := Array.size_map ..
  exact .of_fresh h.S_pos h.M_pow rfl (fun lk hl => by obtain ⟨_, _, rfl⟩ := Array.mem_map.mp hl; rfl)
    (hsz ▸ h.locksFit) rfl h.limit

omit [DecidableEq κ] in
theorem setMlf_spec (c : Cfg κ) (t : Table κ ν) (m : AMap κ ν) (x : Float) (h : Inv c t) (hr : Rel c t m) :
    Inv c (t.setMlf x).1 ∧ Rel c (t.setMlf x).1 m ∧ (AllMig t → AllMig (t.setMlf x).1) := by
  unfold Table.setMlf
  split
  · exact ⟨h, hr, id⟩
  · split
    · exact ⟨h, hr, id⟩
    · exact ⟨{ h with }, { hr with }, id⟩

omit [DecidableEq κ] in
theorem setMhp_spec (c : Cfg κ) (t : Table κ ν) (m : AMap κ ν) (x : Nat) (h : Inv c t) (hr : Rel c t m) :
    Inv c (t.setMhp x).1 ∧ Rel c (t.setMhp x).1 m ∧ (AllMig t → AllMig (t.setMhp x).1) := by
  unfold Table.setMhp
  split
  · exact ⟨h, hr, id⟩
  · rename_i hg
    exact ⟨{ h with limit := .inr (Nat.le_of_not_gt hg) }, { hr with }, id⟩

end Cuckoo.Model
