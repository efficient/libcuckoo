import Cuckoo.Proofs.Store
import Cuckoo.Arith.Lemmas
/-!
Vocabulary shared by the helper-lemma files: "same live view" (`Same`), "everything migrated" (`AllMig`), the structural
facts an internal step keeps (`Keeps`), and the three together with the invariant (`Step`), which is what the internal
steps of an operation are chained by; the same against the abstract map a table represents (`Sim`); the scalar frame of
a step taken under stripe locks (`Scal`).
-/
namespace Cuckoo.Model
open Cuckoo
variable {κ ν : Type}

/-- `t'` has the same live view, counters' sum and settings as `t` (what every internal step of an
operation — lazy migration, displacement, resizing — must guarantee) -/
structure Same (c : Cfg κ) (t t' : Table κ ν) : Prop where
  live : ∀ sl, t'.Live c sl ↔ t.Live c sl
  sum : t'.sumCnt = t.sumCnt
  mlf : t'.mlf = t.mlf
  mhp : t'.mhp = t.mhp
  workers : t'.workers = t.workers

theorem Same.refl (c : Cfg κ) (t : Table κ ν) : Same c t t := ⟨fun _ => Iff.rfl, rfl, rfl, rfl, rfl⟩

theorem Same.trans {c : Cfg κ} {t t' t'' : Table κ ν} (h : Same c t t') (h' : Same c t' t'') : Same c t t'' :=
  ⟨fun sl => (h'.live sl).trans (h.live sl), h'.sum.trans h.sum, h'.mlf.trans h.mlf, h'.mhp.trans h.mhp,
   h'.workers.trans h.workers⟩

/-- every stripe is migrated (always true inside a `locked_table`) -/
def AllMig (t : Table κ ν) : Prop := ∀ (i : Nat) (lk : Lock), t.locks[i]? = some lk → lk.migrated = true

theorem unmigB_eq_true {c : Cfg κ} {t : Table κ ν} {b : Nat} :
    t.unmigB c b = true ↔ ∃ lk, t.locks[c.lockInd b]? = some lk ∧ lk.migrated = false := by
  unfold Table.unmigB
  cases t.locks[c.lockInd b]? <;> simp

theorem unmigB_eq_false {c : Cfg κ} {t : Table κ ν} {b : Nat} :
    t.unmigB c b = false ↔ ∀ lk, t.locks[c.lockInd b]? = some lk → lk.migrated = true := by
  unfold Table.unmigB
  cases t.locks[c.lockInd b]? <;> simp

theorem unmigB_congr {c : Cfg κ} {t t' : Table κ ν} {b b' : Nat}
    (h : (t'.locks[c.lockInd b']?).map Lock.migrated = (t.locks[c.lockInd b]?).map Lock.migrated) :
    t'.unmigB c b' = t.unmigB c b :=
  Bool.eq_iff_iff.mpr (by
    rw [unmigB_eq_true, unmigB_eq_true, ← Option.map_eq_some_iff, ← Option.map_eq_some_iff, h])

theorem at_old_some_iff (c : Cfg κ) (t : Table κ ν) (b s : Nat) (sl : Slot κ ν) :
    t.at c (.old b s) = some sl ↔ ∃ o, t.old = some o ∧ t.unmigB c b = true ∧ o.get c.S b s = some sl := by
  simp only [Table.at]
  cases t.old <;> simp

theorem AllMig.unmigB {c : Cfg κ} {t : Table κ ν} (h : AllMig t) (b : Nat) : t.unmigB c b = false :=
  unmigB_eq_false.mpr (h _)

theorem AllMig.at_old {c : Cfg κ} {t : Table κ ν} (h : AllMig t) (b s : Nat) : t.at c (.old b s) = none := by
  simp only [Table.at, h.unmigB]
  split <;> rfl

theorem AllMig.live_iff_cur {c : Cfg κ} {t : Table κ ν} (h : AllMig t) (sl : Slot κ ν) :
    t.Live c sl ↔ ∃ b s, t.cur.get c.S b s = some sl := by
  constructor
  · rintro ⟨p, hp⟩
    cases p with
    | cur b s => exact ⟨b, s, hp⟩
    | old b s => rw [h.at_old] at hp; cases hp
  · rintro ⟨b, s, hp⟩
    exact ⟨.cur b s, hp⟩

theorem nUnmig_zero_iff (t : Table κ ν) : t.nUnmig = 0 ↔ AllMig t := by
  unfold Table.nUnmig AllMig
  rw [List.length_eq_zero_iff, List.filter_eq_nil_iff]
  constructor
  · intro h i lk hi
    simpa using h lk (Array.mem_toList_iff.mpr (Array.mem_of_getElem? hi))
  · intro h a ha
    obtain ⟨i, hi⟩ := Array.mem_iff_getElem?.mp (Array.mem_toList_iff.mp ha)
    simp [h i a hi]

theorem AllMig.nUnmig {t : Table κ ν} (h : AllMig t) : t.nUnmig = 0 := (nUnmig_zero_iff t).mpr h

theorem nUnmig_pos_of (t : Table κ ν) (l : Nat) (lk : Lock) (h : t.locks[l]? = some lk)
    (hm : lk.migrated = false) : 0 < t.nUnmig :=
  Nat.pos_of_ne_zero fun h0 => Bool.eq_false_iff.mp hm ((nUnmig_zero_iff t).mp h0 l lk h)

/-- structural facts every internal step of an operation preserves -/
structure Keeps (c : Cfg κ) (t t' : Table κ ν) : Prop where
  hp : t'.hp = t.hp
  rc : t'.rc = t.rc
  mono : ∀ b, t.unmigB c b = false → t'.unmigB c b = false
  allmig : AllMig t → AllMig t'

theorem Keeps.refl (c : Cfg κ) (t : Table κ ν) : Keeps c t t := ⟨rfl, rfl, fun _ h => h, fun h => h⟩

theorem Keeps.trans {c : Cfg κ} {t t' t'' : Table κ ν} (h : Keeps c t t') (h' : Keeps c t' t'') : Keeps c t t'' :=
  ⟨h'.hp.trans h.hp, h'.rc.trans h.rc, fun b hb => h'.mono b (h.mono b hb), fun ha => h'.allmig (h.allmig ha)⟩

/-- `t'` arises from `t` by internal steps of an operation (taking stripes with lazy migration, search,
displacement): the invariant holds again and nothing observable has changed -/
structure Step (c : Cfg κ) (t t' : Table κ ν) : Prop where
  inv : Inv c t'
  same : Same c t t'
  keeps : Keeps c t t'

theorem Step.refl {c : Cfg κ} {t : Table κ ν} (h : Inv c t) : Step c t t := ⟨h, Same.refl c t, Keeps.refl c t⟩

theorem Step.trans {c : Cfg κ} {t t' t'' : Table κ ν} (h : Step c t t') (h' : Step c t' t'') : Step c t t'' :=
  ⟨h'.inv, h.same.trans h'.same, h.keeps.trans h'.keeps⟩

theorem Step.allmig {c : Cfg κ} {t t' : Table κ ν} {locked : Bool} (h : Step c t t')
    (hl : locked = true → AllMig t) : locked = true → AllMig t' := fun e => h.keeps.allmig (hl e)

/-- `t'` is reached from `t` by steps of an operation and represents `m'`: `Step` with the live view replaced by the
abstract map it stands for.  The mutations, lookups and functor tails of `Proofs/Ops.lean` are stated by it. -/
structure Sim (c : Cfg κ) (t t' : Table κ ν) (m' : List (κ × ν)) : Prop where
  inv : Inv c t'
  rel : Rel c t' m'
  keeps : Keeps c t t'

theorem Sim.trans {c : Cfg κ} {t t' t'' : Table κ ν} {m' m'' : List (κ × ν)} (h : Sim c t t' m')
    (h' : Sim c t' t'' m'') : Sim c t t'' m'' := ⟨h'.inv, h'.rel, h.keeps.trans h'.keeps⟩

/-- hashpower, array sizes, resize counter, superseded lock arrays and settings are unchanged; the number of
un-migrated stripes only decreases; the old array is only released, together with `rem = 0`.  These are the fields of
`WritesWithin` that do not mention a stripe. -/
structure Scal (t t' : Table κ ν) : Prop where
  hp : t'.hp = t.hp
  csize : t'.cur.cells.size = t.cur.cells.size
  nlocks : t'.locks.size = t.locks.size
  rc : t'.rc = t.rc
  gens : t'.oldGens = t.oldGens
  mlf : t'.mlf = t.mlf
  mhp : t'.mhp = t.mhp
  workers : t'.workers = t.workers
  old : t'.old = t.old ∨ (t'.old = none ∧ t'.rem = 0)
  rem : t'.rem ≤ t.rem

theorem Scal.refl (t : Table κ ν) : Scal t t :=
  ⟨rfl, rfl, rfl, rfl, rfl, rfl, rfl, rfl, .inl rfl, Nat.le_refl _⟩

theorem Scal.trans {t t' t'' : Table κ ν} (h : Scal t t') (h' : Scal t' t'') : Scal t t'' where
  hp := h'.hp.trans h.hp
  csize := h'.csize.trans h.csize
  nlocks := h'.nlocks.trans h.nlocks
  rc := h'.rc.trans h.rc
  gens := h'.gens.trans h.gens
  mlf := h'.mlf.trans h.mlf
  mhp := h'.mhp.trans h.mhp
  workers := h'.workers.trans h.workers
  old := by
    rcases h'.old with e | e
    · rcases h.old with e0 | e0
      · exact .inl (e.trans e0)
      · exact .inr ⟨e.trans e0.1, Nat.le_zero.mp (e0.2 ▸ h'.rem)⟩
    · exact .inr e
  rem := Nat.le_trans h'.rem h.rem

/-- a cuckoo path whose consecutive buckets are alternates of each other under the recorded hashes -/
def PathOK (c : Cfg κ) (hp : Nat) : List PathRec → Prop
  | [] => True
  | [p] => p.slot < c.S
  | p :: q :: rest =>
    p.slot < c.S ∧ q.bucket = Spec.altIndex hp (Spec.partialKey p.hash) p.bucket ∧ PathOK c hp (q :: rest)

/-- what `cuckoo_insert_loop` promises about the position it returns -/
def InsOK (c : Cfg κ) (t : Table κ ν) (k : κ) : InsPos → Prop
  | .free b s =>
    (b = c.i1 t.hp k ∨ b = c.i2 t.hp k) ∧ s < c.S ∧ t.cur.get c.S b s = none ∧ t.unmigB c b = false ∧
    ∀ tag v, ¬ t.Live c ⟨tag, k, v⟩
  | .dup b s => (b = c.i1 t.hp k ∨ b = c.i2 t.hp k) ∧ ∃ sl, t.cur.get c.S b s = some sl ∧ sl.key = k

def InsPos.bkt : InsPos → Nat
  | .free b _ => b
  | .dup b _ => b

theorem InsOK.pos {c : Cfg κ} {t : Table κ ν} {k : κ} {p : InsPos} (h : InsOK c t k p) :
    (p.bkt = c.i1 t.hp k ∨ p.bkt = c.i2 t.hp k) ∧ ∀ b s, p = .free b s → s < c.S := by
  cases p with
  | free b s => exact ⟨h.1, fun _ _ e => by cases e; exact h.2.1⟩
  | dup b s => exact ⟨h.1, fun _ _ e => nomatch e⟩

theorem cand_lt {c : Cfg κ} {hp b : Nat} {k : κ} (h : b = c.i1 hp k ∨ b = c.i2 hp k) : b < 2 ^ hp := by
  rcases h with rfl | rfl
  · exact Spec.indexHash_lt _ _
  · exact Spec.altIndex_lt _ _ _

theorem Rel.congr {c : Cfg κ} {t t' : Table κ ν} {m : List (κ × ν)} (h : Rel c t m)
    (hl : ∀ sl, t'.Live c sl ↔ t.Live c sl) (hs : t'.sumCnt = t.sumCnt) : Rel c t' m :=
  ⟨fun k v => (h.pairs k v).trans (exists_congr fun _ => (hl _).symm), h.nodup, hs.trans h.count⟩

theorem Rel.of_same {c : Cfg κ} {t t' : Table κ ν} {m : List (κ × ν)} (h : Rel c t m) (hs : Same c t t') :
    Rel c t' m :=
  h.congr hs.live hs.sum

theorem Rel.size {c : Cfg κ} {t : Table κ ν} {m : List (κ × ν)} (h : Rel c t m) : t.size = m.length := by
  show t.sumCnt.toNat = _
  rw [h.count]
  exact Int.toNat_natCast _

end Cuckoo.Model
