import Cuckoo.Proofs.Migrate
import Cuckoo.Model.Conc
/-!
Taking stripes.  `lock_one`, `lock_two`, `lock_three` (also in locked-table mode, and as the section `lockSec`) migrate
lazily the stripes of a list that does not depend on the table (`lockStripes`, `Table.lockL`), so what they preserve and
establish is read off the fold of `rehashLock` over a list (`foldl_rehashLock_migr`).
-/
namespace Cuckoo.Model
open Cuckoo
variable {κ ν : Type}

def Table.lockL (c : Cfg κ) (t : Table κ ν) (ls : List Nat) : Table κ ν :=
  ls.foldl (fun t l => t.rehashLock c l true) t

theorem lockL_nil (c : Cfg κ) (t : Table κ ν) : t.lockL c [] = t := rfl

theorem lockL_cons (c : Cfg κ) (t : Table κ ν) (l : Nat) (ls : List Nat) :
    t.lockL c (l :: ls) = (t.rehashLock c l true).lockL c ls := rfl

/-- the compare-exchange of `lock_two` / `lock_three` -/
def cswap (a b : Nat) : Nat × Nat := if b < a then (b, a) else (a, b)

theorem cswap_eta (a b : Nat) : (if b < a then (b, a) else (a, b)) = ((cswap a b).1, (cswap a b).2) := rfl

theorem cswap_perm (a b : Nat) : [(cswap a b).1, (cswap a b).2].Perm [a, b] := by
  unfold cswap
  split
  · exact .swap ..
  · exact .refl _

/-- the stripes `lock_one/two/three` take for the buckets `bs`, in the order in which they take them (ascending) -/
def lockStripes (c : Cfg κ) : List Nat → List Nat
  | [b] => [c.lockInd b]
  | [b1, b2] => [(cswap (c.lockInd b1) (c.lockInd b2)).1, (cswap (c.lockInd b1) (c.lockInd b2)).2]
  | [b1, b2, b3] =>
    let p1 := cswap (c.lockInd b2) (c.lockInd b3)
    let p2 := cswap (c.lockInd b1) p1.2
    let p3 := cswap p2.1 p1.1
    [p3.1, p3.2, p2.2]
  | _ => []

theorem lockOne_eq_lockL (c : Cfg κ) (t : Table κ ν) (b : Nat) : t.lockOne c b = t.lockL c (lockStripes c [b]) := rfl

theorem lockTwo_eq_lockL (c : Cfg κ) (t : Table κ ν) (b1 b2 : Nat) :
    t.lockTwo c b1 b2 = t.lockL c (lockStripes c [b1, b2]) := by
  unfold Table.lockTwo
  dsimp only
  rw [cswap_eta]
  simp only [lockStripes, lockL_cons, lockL_nil]

-- (closing with `rfl` instead of `simp only` unfolds `rehashLock` on both sides: ten times the cost)
theorem lockThree_eq_lockL (c : Cfg κ) (t : Table κ ν) (b1 b2 b3 : Nat) :
    t.lockThree c b1 b2 b3 = t.lockL c (lockStripes c [b1, b2, b3]) := by
  unfold Table.lockThree
  dsimp only
  rw [cswap_eta]; dsimp only
  rw [cswap_eta]; dsimp only
  rw [cswap_eta]
  simp only [lockStripes, lockL_cons, lockL_nil]

open Conc in
theorem lockSec_eq_lockL (c : Cfg κ) (bs : List Nat) (t : Table κ ν) :
    lockSec c bs t = (t.lockL c (lockStripes c bs), none) := by
  rcases bs with _ | ⟨b1, _ | ⟨b2, _ | ⟨b3, _ | ⟨b4, r⟩⟩⟩⟩
  · rfl
  · rfl
  · simp only [lockSec, lockTwo_eq_lockL]
  · simp only [lockSec, lockThree_eq_lockL]
  · rfl

/-- the sorting network of `lock_three` (and the exchange of `lock_two`) only reorders the requested stripes -/
theorem lockStripes_perm (c : Cfg κ) (bs : List Nat) (h : bs.length ≤ 3) :
    (lockStripes c bs).Perm (bs.map c.lockInd) := by
  rcases bs with _ | ⟨b1, _ | ⟨b2, _ | ⟨b3, _ | ⟨b4, r⟩⟩⟩⟩
  · exact .refl _
  · exact .refl _
  · exact cswap_perm ..
  · show [_, _, _].Perm [c.lockInd b1, c.lockInd b2, c.lockInd b3]
    refine ((cswap_perm _ _).append_right [_]).trans ?_
    refine (List.Perm.swap ..).trans ?_
    refine ((cswap_perm _ _).cons _).trans ?_
    refine (List.Perm.swap ..).trans ?_
    exact (cswap_perm _ _).cons _
  · simp at h

theorem mem_lockStripes (c : Cfg κ) {bs : List Nat} (h : bs.length ≤ 3) {b : Nat} (hb : b ∈ bs) :
    c.lockInd b ∈ lockStripes c bs :=
  (lockStripes_perm c bs h).mem_iff.mpr (List.mem_map_of_mem hb)

theorem lockStripes_sub (c : Cfg κ) (bs : List Nat) {l : Nat} (hl : l ∈ lockStripes c bs) : l ∈ bs.map c.lockInd := by
  rcases bs with _ | ⟨b1, _ | ⟨b2, _ | ⟨b3, _ | ⟨b4, r⟩⟩⟩⟩
  · exact nomatch hl
  · exact hl
  · exact (lockStripes_perm c _ (Nat.le_of_ble_eq_true rfl)).mem_iff.mp hl
  · exact (lockStripes_perm c _ (Nat.le_of_ble_eq_true rfl)).mem_iff.mp hl
  · exact nomatch hl

theorem lockL_step (c : Cfg κ) (ls : List Nat) (t : Table κ ν) (h : Inv c t) :
    Step c t (t.lockL c ls) ∧ ∀ b, c.lockInd b ∈ ls → (t.lockL c ls).unmigB c b = false :=
  have ⟨m, u⟩ := foldl_rehashLock_migr c true ls t h.toW (fun _ => h.rem_eq)
  ⟨m.step, u⟩

theorem lockStripes_step (c : Cfg κ) (bs : List Nat) (t : Table κ ν) (h : Inv c t) (hl : bs.length ≤ 3) :
    Step c t (t.lockL c (lockStripes c bs)) ∧ ∀ b ∈ bs, (t.lockL c (lockStripes c bs)).unmigB c b = false :=
  have ⟨s, u⟩ := lockL_step c (lockStripes c bs) t h
  ⟨s, fun b hb => u b (mem_lockStripes c hl hb)⟩

theorem lockOne_step (c : Cfg κ) (t : Table κ ν) (b : Nat) (h : Inv c t) :
    Step c t (t.lockOne c b) ∧ (t.lockOne c b).unmigB c b = false := by
  rw [lockOne_eq_lockL]
  have ⟨s, u⟩ := lockStripes_step c [b] t h (Nat.le_of_ble_eq_true rfl)
  exact ⟨s, u b (by simp)⟩

theorem lockTwo_step (c : Cfg κ) (t : Table κ ν) (b1 b2 : Nat) (h : Inv c t) :
    Step c t (t.lockTwo c b1 b2) ∧
    (t.lockTwo c b1 b2).unmigB c b1 = false ∧ (t.lockTwo c b1 b2).unmigB c b2 = false := by
  rw [lockTwo_eq_lockL]
  have ⟨s, u⟩ := lockStripes_step c [b1, b2] t h (Nat.le_of_ble_eq_true rfl)
  exact ⟨s, u b1 (by simp), u b2 (by simp)⟩

theorem lockThree_step (c : Cfg κ) (t : Table κ ν) (b1 b2 b3 : Nat) (h : Inv c t) :
    Step c t (t.lockThree c b1 b2 b3) ∧
    (t.lockThree c b1 b2 b3).unmigB c b1 = false ∧ (t.lockThree c b1 b2 b3).unmigB c b2 = false ∧
    (t.lockThree c b1 b2 b3).unmigB c b3 = false := by
  rw [lockThree_eq_lockL]
  have ⟨s, u⟩ := lockStripes_step c [b1, b2, b3] t h (Nat.le_refl 3)
  exact ⟨s, u b1 (by simp), u b2 (by simp), u b3 (by simp)⟩

/-! In locked-table mode nothing is taken, and everything is migrated already. -/

theorem lockOneM_step (c : Cfg κ) (locked : Bool) (t : Table κ ν) (b : Nat) (h : Inv c t)
    (hl : locked = true → AllMig t) :
    Step c t (t.lockOneM c locked b) ∧ (t.lockOneM c locked b).unmigB c b = false := by
  unfold Table.lockOneM
  split
  · next e => exact ⟨.refl h, (hl e).unmigB b⟩
  · exact lockOne_step c t b h

theorem lockTwoM_step (c : Cfg κ) (locked : Bool) (t : Table κ ν) (b1 b2 : Nat) (h : Inv c t)
    (hl : locked = true → AllMig t) :
    Step c t (t.lockTwoM c locked b1 b2) ∧
    (t.lockTwoM c locked b1 b2).unmigB c b1 = false ∧ (t.lockTwoM c locked b1 b2).unmigB c b2 = false := by
  unfold Table.lockTwoM
  split
  · next e => exact ⟨.refl h, (hl e).unmigB b1, (hl e).unmigB b2⟩
  · exact lockTwo_step c t b1 b2 h

theorem lockThreeM_step (c : Cfg κ) (locked : Bool) (t : Table κ ν) (b1 b2 b3 : Nat) (h : Inv c t)
    (hl : locked = true → AllMig t) :
    Step c t (t.lockThreeM c locked b1 b2 b3) ∧
    (t.lockThreeM c locked b1 b2 b3).unmigB c b1 = false ∧ (t.lockThreeM c locked b1 b2 b3).unmigB c b2 = false ∧
    (t.lockThreeM c locked b1 b2 b3).unmigB c b3 = false := by
  unfold Table.lockThreeM
  split
  · next e => exact ⟨.refl h, (hl e).unmigB b1, (hl e).unmigB b2, (hl e).unmigB b3⟩
  · exact lockThree_step c t b1 b2 b3 h

namespace SchedA

-- (`if_neg`, not `rfl`: checking `rfl` unfolds `lockTwo` / `lockThree` and `rehashLock` below them)
theorem lockOneM_false (c : Cfg κ) (t : Table κ ν) (b : Nat) : t.lockOneM c false b = t.lockOne c b :=
  if_neg Bool.false_ne_true
theorem lockTwoM_false (c : Cfg κ) (t : Table κ ν) (b1 b2 : Nat) : t.lockTwoM c false b1 b2 = t.lockTwo c b1 b2 :=
  if_neg Bool.false_ne_true
theorem lockThreeM_false (c : Cfg κ) (t : Table κ ν) (b1 b2 b3 : Nat) :
    t.lockThreeM c false b1 b2 b3 = t.lockThree c b1 b2 b3 :=
  if_neg Bool.false_ne_true

end SchedA

end Cuckoo.Model
