import Cuckoo.Model.Inv
/-!
The flat bucket store: arithmetic of the flat index `b * S + s`, `get` against the flat array, the `get`/`set` laws,
the empty store, the list of its elements.
-/
namespace Cuckoo.Model
open Cuckoo
variable {κ ν : Type}

theorem toList_by_index {α : Type} (a : Array α) (d : α) :
    a.toList = (List.range a.size).map (fun i => a.getD i d) := by
  apply List.ext_getElem
  · simp
  · intro i h1 h2
    simp only [Array.length_toList] at h1
    simp [Array.getD, h1]

theorem nodup_map_of_inj {α β : Type} {f : α → β} {l : List α} (hl : l.Nodup)
    (hf : ∀ x ∈ l, ∀ y ∈ l, f x = f y → x = y) : (l.map f).Nodup := by
  rw [List.nodup_iff_pairwise_ne] at hl ⊢
  exact List.pairwise_map.mpr (hl.imp_of_mem (fun hx hy hne e => hne (hf _ hx _ hy e)))

theorem foldl_countP {α : Type} {f : Nat → α → Nat} (p : α → Bool) (hf : ∀ n a, f n a = if p a then n + 1 else n)
    (l : List α) (n : Nat) : l.foldl f n = n + l.countP p := by
  induction l generalizing n with
  | nil => rfl
  | cons a l ih => rw [List.foldl_cons, ih, hf, List.countP_cons]; split <;> omega

theorem flat_div {S b s : Nat} (hs : s < S) : (b * S + s) / S = b := by
  rw [Nat.mul_comm, Nat.mul_add_div (by omega), Nat.div_eq_of_lt hs]; rfl

theorem flat_mod {S b s : Nat} (hs : s < S) : (b * S + s) % S = s := by
  rw [Nat.mul_comm, Nat.mul_add_mod, Nat.mod_eq_of_lt hs]

theorem flat_lt {n S b s : Nat} (hb : b < n) (hs : s < S) : b * S + s < n * S := by
  have : (b + 1) * S ≤ n * S := Nat.mul_le_mul_right S hb
  rw [Nat.add_mul] at this
  omega

theorem flat_inj {S b s b' s' : Nat} (hs : s < S) (hs' : s' < S) (h : b * S + s = b' * S + s') :
    b = b' ∧ s = s' :=
  ⟨by rw [← flat_div (b := b) hs, h, flat_div hs'], by rw [← flat_mod (b := b) hs, h, flat_mod hs']⟩

theorem Store.ext' {a b : Store κ ν} (h1 : a.hp = b.hp) (h2 : a.cells = b.cells) : a = b := by
  cases a; cases b; simp_all

theorem Store.get_eq_getD {S : Nat} (st : Store κ ν) {b s : Nat} (hs : s < S) :
    st.get S b s = st.cells.getD (b * S + s) none := by
  simp [Store.get, hs]

theorem Store.get_divmod {S : Nat} (hS : 0 < S) (st : Store κ ν) (i : Nat) :
    st.get S (i / S) (i % S) = st.cells.getD i none := by
  rw [st.get_eq_getD (Nat.mod_lt _ hS), Nat.mul_comm, Nat.div_add_mod]

theorem Store.get_of_not_lt (S : Nat) (st : Store κ ν) (b s : Nat) (h : ¬ s < S) : st.get S b s = none := by
  simp [Store.get, h]

theorem Store.get_eq_of_cell_eq (S : Nat) (st st' : Store κ ν) (b s : Nat)
    (h : st'.cells[b * S + s]? = st.cells[b * S + s]?) : st'.get S b s = st.get S b s := by
  by_cases hs : s < S
  · rw [st'.get_eq_getD hs, st.get_eq_getD hs, Array.getD_eq_getD_getElem?, Array.getD_eq_getD_getElem?, h]
  · rw [Store.get_of_not_lt _ _ _ _ hs, Store.get_of_not_lt _ _ _ _ hs]

/-- the converse needs the sizes: `get` does not tell an empty cell from one outside the array -/
theorem Store.cell_eq_of_get_eq (S : Nat) (st st' : Store κ ν) (b s : Nat) (hs : s < S)
    (hsz : st'.cells.size = st.cells.size) (h : st'.get S b s = st.get S b s) :
    st'.cells[b * S + s]? = st.cells[b * S + s]? := by
  rw [st'.get_eq_getD hs, st.get_eq_getD hs, Array.getD_eq_getD_getElem?, Array.getD_eq_getD_getElem?] at h
  by_cases hlt : b * S + s < st.cells.size
  · rw [Array.getElem?_eq_getElem hlt, Array.getElem?_eq_getElem (hsz ▸ hlt)] at h ⊢
    exact congrArg some h
  · rw [Array.getElem?_eq_none (by omega), Array.getElem?_eq_none (by omega)]

theorem Store.ext_get (S : Nat) (hS : 0 < S) {a b : Store κ ν} (hhp : a.hp = b.hp)
    (hsz : a.cells.size = b.cells.size) (h : ∀ bk s, a.get S bk s = b.get S bk s) : a = b := by
  refine Store.ext' hhp (Array.ext_getElem? fun i => ?_)
  have := Store.cell_eq_of_get_eq S b a (i / S) (i % S) (Nat.mod_lt _ hS) hsz (h _ _)
  rwa [Nat.mul_comm, Nat.div_add_mod] at this

theorem Table.ext' {a b : Table κ ν} (h1 : a.cur = b.cur) (h2 : a.old = b.old) (h3 : a.locks = b.locks)
    (h4 : a.oldGens = b.oldGens) (h5 : a.rem = b.rem) (h6 : a.rc = b.rc) (h7 : a.mlf = b.mlf) (h8 : a.mhp = b.mhp)
    (h9 : a.workers = b.workers) : a = b := by
  cases a; cases b; simp_all

theorem Table.eq_of_parts (c : Cfg κ) (hS : 0 < c.S) {a b : Table κ ν}
    (hcells : ∀ bk s, a.cur.get c.S bk s = b.cur.get c.S bk s) (hcsz : a.cur.cells.size = b.cur.cells.size)
    (hhp : a.hp = b.hp) (hlocks : ∀ l : Nat, a.locks[l]? = b.locks[l]?) (hold : a.old = b.old)
    (hgens : a.oldGens = b.oldGens) (hrem : a.rem = b.rem) (hrc : a.rc = b.rc) (hmlf : a.mlf = b.mlf)
    (hmhp : a.mhp = b.mhp) (hw : a.workers = b.workers) : a = b :=
  Table.ext' (Store.ext_get c.S hS hhp hcsz hcells) hold (Array.ext_getElem? hlocks) hgens hrem
    hrc hmlf hmhp hw

@[simp] theorem Store.set_hp (S : Nat) (st : Store κ ν) (b s : Nat) (v) : (st.set S b s v).hp = st.hp := rfl

@[simp] theorem Store.set_size (S : Nat) (st : Store κ ν) (b s : Nat) (v) :
    (st.set S b s v).cells.size = st.cells.size := by
  simp [Store.set]

theorem Store.get_some_lt {S : Nat} {st : Store κ ν} {b s : Nat} {sl : Slot κ ν}
    (h : st.get S b s = some sl) : s < S ∧ b * S + s < st.cells.size := by
  by_cases hs : s < S
  · refine ⟨hs, Nat.lt_of_not_le fun hge => ?_⟩
    rw [st.get_eq_getD hs, Array.getD_eq_getD_getElem?, Array.getElem?_eq_none hge] at h
    cases h
  · rw [Store.get_of_not_lt S st b s hs] at h
    cases h

theorem Store.get_some_bucket_lt {S : Nat} {st : Store κ ν} {b s : Nat} {sl : Slot κ ν}
    (hsz : st.cells.size = 2 ^ st.hp * S) (h : st.get S b s = some sl) : b < 2 ^ st.hp := by
  have ⟨hs, hlt⟩ := Store.get_some_lt h
  rw [hsz] at hlt
  apply Nat.lt_of_not_le
  intro hge
  have : 2 ^ st.hp * S ≤ b * S := Nat.mul_le_mul_right S hge
  omega

theorem Store.get_set_gen (S : Nat) (st : Store κ ν) (b s b' s' : Nat) (v) (hs : s < S) :
    (st.set S b s v).get S b' s' =
      if b' = b ∧ s' = s ∧ b * S + s < st.cells.size then v else st.get S b' s' := by
  unfold Store.get Store.set
  by_cases hs' : s' < S
  · simp only [if_pos hs', Array.getD_eq_getD_getElem?, Array.getElem?_setIfInBounds]
    by_cases e : b * S + s = b' * S + s'
    · obtain ⟨rfl, rfl⟩ := flat_inj hs hs' e
      by_cases hlt : b * S + s < st.cells.size <;> simp [hlt]
    · rw [if_neg e, if_neg (fun x : b' = b ∧ s' = s ∧ _ => e (by rw [x.1, x.2.1]))]
  · rw [if_neg hs', if_neg hs', if_neg (fun x : b' = b ∧ s' = s ∧ _ => hs' (x.2.1 ▸ hs))]

theorem Store.get_set (S : Nat) (st : Store κ ν) (b s b' s' : Nat) (v)
    (hs : s < S) (hlt : b * S + s < st.cells.size) :
    (st.set S b s v).get S b' s' = if b' = b ∧ s' = s then v else st.get S b' s' := by
  rw [Store.get_set_gen S st b s b' s' v hs]
  simp only [hlt, and_true]

theorem Store.get_set_same (S : Nat) (st : Store κ ν) (b s : Nat) (v)
    (hs : s < S) (hlt : b * S + s < st.cells.size) : (st.set S b s v).get S b s = v := by
  rw [Store.get_set S st b s b s v hs hlt, if_pos ⟨rfl, rfl⟩]

theorem Store.get_set_other (S : Nat) (st : Store κ ν) (b s b' s' : Nat) (v)
    (hs : s < S) (hne : ¬ (b' = b ∧ s' = s)) : (st.set S b s v).get S b' s' = st.get S b' s' := by
  rw [Store.get_set_gen S st b s b' s' v hs, if_neg (fun x => hne ⟨x.1, x.2.1⟩)]

theorem Store.mk'_get (S hp b s : Nat) : (Store.mk' S hp : Store κ ν).get S b s = none := by
  unfold Store.get Store.mk'
  split
  · simp only [Array.getD_eq_getD_getElem?, Array.getElem?_replicate]
    split <;> rfl
  · rfl

theorem Store.mk'_size (S hp : Nat) : (Store.mk' S hp : Store κ ν).cells.size = 2 ^ hp * S := by
  simp [Store.mk']

@[simp] theorem Store.mk'_hp (S hp : Nat) : (Store.mk' S hp : Store κ ν).hp = hp := rfl

theorem Store.mk'_wf (c : Cfg κ) (hp : Nat) : (Store.mk' c.S hp : Store κ ν).WF c :=
  ⟨Store.mk'_size _ _, by intro b s sl h; rw [Store.mk'_get] at h; cases h⟩

theorem Store.count_eq_countP (st : Store κ ν) : st.count = st.cells.countP Option.isSome := by
  unfold Store.count
  rw [← Array.foldl_toList, foldl_countP Option.isSome (fun _ _ => rfl), Array.countP_toList, Nat.zero_add]

theorem Store.count_set (S : Nat) (st : Store κ ν) (b s : Nat) (v : Option (Slot κ ν)) (hs : s < S)
    (hlt : b * S + s < st.cells.size) :
    (st.set S b s v).count + (if (st.get S b s).isSome then 1 else 0) =
      st.count + (if v.isSome then 1 else 0) := by
  rw [Store.count_eq_countP, Store.count_eq_countP, st.get_eq_getD hs, Array.getD_eq_getD_getElem?,
    Array.getElem?_eq_getElem hlt, Option.getD_some]
  show (st.cells.setIfInBounds (b * S + s) v).countP _ + _ = _
  rw [Array.setIfInBounds_def, dif_pos hlt, Array.countP_set hlt, Nat.add_right_comm,
    Nat.sub_add_cancel (Array.boole_getElem_le_countP hlt)]

theorem Store.mk'_count (S hp : Nat) : (Store.mk' S hp : Store κ ν).count = 0 := by
  rw [Store.count_eq_countP, Array.countP_eq_zero]
  intro a ha
  rw [(Array.mem_replicate.mp ha).2]
  exact Bool.false_ne_true

theorem Store.count_zero_of_empty {S : Nat} (hS : 0 < S) (st : Store κ ν) (h : ∀ b s, st.get S b s = none) :
    st.count = 0 := by
  rw [Store.count_eq_countP, Array.countP_eq_zero]
  intro a ha
  obtain ⟨i, hi, rfl⟩ := Array.mem_iff_getElem.mp ha
  have := h (i / S) (i % S)
  rw [Store.get_divmod hS, Array.getD_eq_getD_getElem?, Array.getElem?_eq_getElem hi] at this
  rw [show st.cells[i] = none from this]
  exact Bool.false_ne_true

theorem Store.get_of_cell {S : Nat} (hS : 0 < S) (st : Store κ ν) (i : Nat) (sl : Slot κ ν)
    (hi : st.cells[i]? = some (some sl)) : st.get S (i / S) (i % S) = some sl := by
  rw [Store.get_divmod hS, Array.getD_eq_getD_getElem?, hi]
  rfl

theorem Store.mem_elems {S : Nat} (hS : 0 < S) (st : Store κ ν) (sl : Slot κ ν) :
    sl ∈ st.elems ↔ ∃ b s, st.get S b s = some sl := by
  unfold Store.elems
  rw [List.mem_filterMap]
  constructor
  · rintro ⟨a, ha, hid⟩
    simp only [id] at hid
    subst hid
    rw [Array.mem_toList_iff, Array.mem_iff_getElem?] at ha
    obtain ⟨i, hi⟩ := ha
    exact ⟨i / S, i % S, Store.get_of_cell hS st i sl hi⟩
  · rintro ⟨b, s, h⟩
    have ⟨hs, hlt⟩ := Store.get_some_lt h
    refine ⟨some sl, ?_, rfl⟩
    rw [Array.mem_toList_iff, Array.mem_iff_getElem?]
    refine ⟨b * S + s, ?_⟩
    simp only [Store.get, hs, ↓reduceIte, Array.getD_eq_getD_getElem?] at h
    rw [Array.getElem?_eq_getElem hlt] at h ⊢
    simpa using h

def Rz.StoreUniq (S : Nat) (st : Store κ ν) : Prop :=
  ∀ b s b' s' sl sl', st.get S b s = some sl → st.get S b' s' = some sl' → sl.key = sl'.key → b = b' ∧ s = s'

theorem Store.elems_pairwise {S : Nat} (hS : 0 < S) (st : Store κ ν) (huniq : Rz.StoreUniq S st) :
    st.elems.Pairwise (fun a b => a.key ≠ b.key) := by
  unfold Store.elems
  rw [List.pairwise_filterMap, List.pairwise_iff_getElem]
  intro i j hi hj hij a ha b hb heq
  simp only [id] at ha hb
  have h1 : st.cells[i]? = some (some a) := by
    rw [← ha, ← Array.getElem?_toList, List.getElem?_eq_getElem hi]
  have h2 : st.cells[j]? = some (some b) := by
    rw [← hb, ← Array.getElem?_toList, List.getElem?_eq_getElem hj]
  have := huniq _ _ _ _ _ _ (Store.get_of_cell hS st i a h1) (Store.get_of_cell hS st j b h2) heq
  have hd := Nat.div_add_mod i S
  have hd' := Nat.div_add_mod j S
  rw [this.1, this.2] at hd
  omega

end Cuckoo.Model
