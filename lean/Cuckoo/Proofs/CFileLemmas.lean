import Cuckoo.Model.CFile
/-! What `Props/C14.lean` needs of the file format of `Model/CFile.lean`: `readPairs` undoes `writePairs` when keys and
values fit their widths, and the reader fails on an image shorter than its count announces (`read_short`). -/
namespace Cuckoo.CFile

theorem encode_length (w n : Nat) : (encode w n).length = w := by
  induction w generalizing n with
  | zero => rfl
  | succ w ih => simp only [encode, List.length_cons, ih]

theorem writePairs_length (kw vw : Nat) (ps : List (Nat × Nat)) :
    (writePairs kw vw ps).length = ps.length * (kw + vw) := by
  induction ps with
  | nil => simp [writePairs]
  | cons p rest ih =>
    obtain ⟨k, v⟩ := p
    simp only [writePairs, List.length_append, encode_length, ih, List.length_cons, Nat.succ_mul]
    omega

theorem decode_encode (w n : Nat) (h : n < 256 ^ w) : decode (encode w n) = n := by
  induction w generalizing n with
  | zero =>
    simp only [Nat.pow_zero] at h
    simp only [encode, decode]
    omega
  | succ w ih =>
    have h2 : n / 256 < 256 ^ w := by
      apply Nat.div_lt_of_lt_mul
      rw [Nat.pow_succ, Nat.mul_comm] at h
      exact h
    simp only [encode, decode, ih _ h2]
    omega

theorem take?_append (n : Nat) (a b : List Byte) (h : a.length = n) : take? n (a ++ b) = some (a, b) := by
  unfold take?
  rw [if_pos (by rw [List.length_append]; omega), List.take_left' h, List.drop_left' h]

theorem readPairs_writePairs (kw vw : Nat) (ps : List (Nat × Nat)) (rest : List Byte)
    (hfit : ∀ p ∈ ps, p.1 < 256 ^ kw ∧ p.2 < 256 ^ vw) :
    readPairs kw vw ps.length (writePairs kw vw ps ++ rest) = some ps := by
  induction ps with
  | nil => rfl
  | cons p tl ih =>
    obtain ⟨k, v⟩ := p
    have hp := hfit (k, v) (List.mem_cons_self ..)
    have ih' := ih (fun q hq => hfit q (List.mem_cons_of_mem _ hq))
    simp only [writePairs, List.length_cons, readPairs, List.append_assoc, take?_append _ _ _ (encode_length ..),
      ih', decode_encode _ _ hp.1, decode_encode _ _ hp.2]

/-- `fread` of `n` bytes either fails or leaves exactly `n` fewer -/
theorem take?_length {n : Nat} {bs a r : List Byte} (h : take? n bs = some (a, r)) : r.length + n = bs.length := by
  unfold take? at h
  split at h
  · cases h; rw [List.length_drop]; omega
  · cases h

theorem readPairs_short (kw vw n : Nat) (bs : List Byte) (h : bs.length < n * (kw + vw)) :
    readPairs kw vw n bs = none := by
  induction n generalizing bs with
  | zero => omega
  | succ n ih =>
    rw [Nat.succ_mul] at h
    unfold readPairs
    split
    · rfl
    · rename_i kb r1 h1
      have := take?_length h1
      split
      · rfl
      · rename_i vb r2 h2
        have := take?_length h2
        rw [ih r2 (by omega)]

theorem read_short (kw vw : Nat) (bs : List Byte)
    (h : bs.length < 8 ∨ bs.length < 8 + decode (bs.take 8) * (kw + vw)) : read kw vw bs = none := by
  unfold read take?
  by_cases h8 : 8 ≤ bs.length
  · rw [if_pos h8]; exact readPairs_short _ _ _ _ (by rw [List.length_drop]; omega)
  · rw [if_neg h8]

end Cuckoo.CFile
