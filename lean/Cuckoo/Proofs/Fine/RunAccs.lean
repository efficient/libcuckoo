import Cuckoo.Model.Fine
/-!
Serial memory semantics `runAccs`: append, frame (unwritten locations), congruence, and the commutation lemma
`runAccs_insert` that lets a late access be inserted into the middle of the serial execution.
-/
namespace Cuckoo.Fine
open Cuckoo.Proto

variable {V : Type}

@[simp] theorem setM_same (m : Nat → V) (x : Nat) (v : V) : setM m x v x = v := by simp [setM]
theorem setM_other {m : Nat → V} {x y : Nat} {v : V} (h : y ≠ x) : setM m x v y = m y := by simp [setM, h]

theorem setM_comm (m : Nat → V) (x y : Nat) (v w : V) (h : x ≠ y) :
    setM (setM m x v) y w = setM (setM m y w) x v := by
  funext z
  simp only [setM]
  by_cases h1 : z = y
  · subst h1; simp [Ne.symm h]
  · simp [h1]

@[simp] theorem locs_nil : locs ([] : List (Acc V)) = [] := rfl
@[simp] theorem locs_cons (a : Acc V) (L : List (Acc V)) : locs (a :: L) = a.loc :: locs L := rfl
@[simp] theorem locs_append (A B : List (Acc V)) : locs (A ++ B) = locs A ++ locs B := by simp [locs]

theorem mem_wlocs_cons (a : Acc V) (L : List (Acc V)) (x : Nat) :
    x ∈ wlocs (a :: L) ↔ (a.isWrite = true ∧ x = a.loc) ∨ x ∈ wlocs L := by
  cases h : a.isWrite
  · simp [wlocs, h]
  · simp [wlocs, h, @eq_comm _ x]

theorem wlocs_sub (L : List (Acc V)) (x : Nat) (h : x ∈ wlocs L) : x ∈ locs L :=
  (List.filter_sublist.map Acc.loc).subset h

variable [DecidableEq V]

@[simp] theorem runAccs_nil (m : Nat → V) : runAccs m [] = some m := rfl

theorem runAccs_cons (m : Nat → V) (a : Acc V) (L : List (Acc V)) :
    runAccs m (a :: L) = (applyAcc m a).bind fun m' => runAccs m' L := rfl

theorem runAccs_cons_eq_some {m r : Nat → V} {a : Acc V} {L : List (Acc V)} :
    runAccs m (a :: L) = some r ↔ ∃ m1, applyAcc m a = some m1 ∧ runAccs m1 L = some r := by
  rw [runAccs_cons, Option.bind_eq_some_iff]

theorem runAccs_append (A B : List (Acc V)) : ∀ (m : Nat → V),
    runAccs m (A ++ B) = (runAccs m A).bind fun m' => runAccs m' B := by
  induction A with
  | nil => intro m; simp
  | cons a A ih =>
    intro m
    rw [List.cons_append, runAccs_cons, runAccs_cons, Option.bind_assoc]
    exact congrArg _ (funext ih)

theorem runAccs_append_eq_some {m r : Nat → V} {A B : List (Acc V)} :
    runAccs m (A ++ B) = some r ↔ ∃ m1, runAccs m A = some m1 ∧ runAccs m1 B = some r := by
  rw [runAccs_append, Option.bind_eq_some_iff]

theorem runAccs_single (m : Nat → V) (a : Acc V) : runAccs m [a] = applyAcc m a := by
  simp only [runAccs_cons]
  cases applyAcc m a <;> simp

theorem applyAcc_read {m m' : Nat → V} {x : Nat} {v : V} : applyAcc m (.read x v) = some m' ↔ m x = v ∧ m' = m := by
  simp only [applyAcc, Option.ite_none_right_eq_some, Option.some.injEq, eq_comm]

theorem applyAcc_frame {m m' : Nat → V} {a : Acc V} (h : applyAcc m a = some m') (x : Nat)
    (hx : a.isWrite = true → x ≠ a.loc) : m' x = m x := by
  cases a with
  | read y v => rw [(applyAcc_read.1 h).2]
  | write y v =>
    cases h
    exact setM_other (hx rfl)

theorem runAccs_unwritten (L : List (Acc V)) : ∀ (m m' : Nat → V), runAccs m L = some m' →
    ∀ x, x ∉ wlocs L → m' x = m x := by
  induction L with
  | nil => intro m m' h x _; cases h; rfl
  | cons a L ih =>
    intro m m' h x hx
    obtain ⟨m1, h1, h⟩ := runAccs_cons_eq_some.1 h
    rw [mem_wlocs_cons, not_or] at hx
    rw [ih m1 m' h x hx.2]
    exact applyAcc_frame h1 x fun hw e => hx.1 ⟨hw, e⟩

theorem runAccs_untouched (L : List (Acc V)) (m m' : Nat → V) (h : runAccs m L = some m')
    (x : Nat) (hx : x ∉ locs L) : m' x = m x :=
  runAccs_unwritten L m m' h x (fun hh => hx (wlocs_sub L x hh))

theorem applyAcc_congr (S : Nat → Prop) (a : Acc V) (m m' r : Nat → V) (hS : S a.loc)
    (hag : ∀ x, S x → m x = m' x) (h : applyAcc m a = some r) :
    ∃ r', applyAcc m' a = some r' ∧ ∀ x, S x → r x = r' x := by
  cases a with
  | read y v =>
    obtain ⟨hy, rfl⟩ := applyAcc_read.1 h
    exact ⟨m', applyAcc_read.2 ⟨(hag y hS).symm.trans hy, rfl⟩, hag⟩
  | write y v =>
    cases h
    refine ⟨_, rfl, fun x hx => ?_⟩
    simp only [setM]
    split
    · rfl
    · exact hag x hx

theorem runAccs_congr (S : Nat → Prop) (L : List (Acc V)) : ∀ (m m' r : Nat → V),
    (∀ x ∈ locs L, S x) → (∀ x, S x → m x = m' x) → runAccs m L = some r →
    ∃ r', runAccs m' L = some r' ∧ ∀ x, S x → r x = r' x := by
  induction L with
  | nil => intro m m' r _ hag h; cases h; exact ⟨m', rfl, hag⟩
  | cons a L ih =>
    intro m m' r hS hag h
    obtain ⟨m1, h1, h⟩ := runAccs_cons_eq_some.1 h
    obtain ⟨m1', h1', hag1⟩ := applyAcc_congr S a m m' m1 (hS _ (List.mem_cons_self ..)) hag h1
    obtain ⟨r', hr', hagr⟩ := ih m1 m1' r (fun x hx => hS x (List.mem_cons_of_mem _ hx)) hag1 h
    exact ⟨r', runAccs_cons_eq_some.2 ⟨m1', h1', hr'⟩, hagr⟩

theorem applyAcc_swap (a b : Acc V) (h : a.loc ≠ b.loc) (m : Nat → V) :
    ((applyAcc m a).bind fun m' => applyAcc m' b) = (applyAcc m b).bind fun m' => applyAcc m' a := by
  cases a with
  | read x v =>
    cases b with
    | read y w =>
      simp only [applyAcc]
      by_cases h1 : m x = v <;> by_cases h2 : m y = w <;> simp [h1, h2]
    | write y w =>
      have hxy : x ≠ y := h
      simp only [applyAcc, Option.bind_some, setM_other hxy]
      by_cases h1 : m x = v <;> simp [h1]
  | write x v =>
    cases b with
    | read y w =>
      have hxy : y ≠ x := fun e => h e.symm
      simp only [applyAcc, Option.bind_some, setM_other hxy]
      by_cases h1 : m y = w <;> simp [h1]
    | write y w =>
      have hxy : x ≠ y := h
      simp only [applyAcc, Option.bind_some]
      rw [setM_comm m x y v w hxy]

theorem applyAcc_comm (a : Acc V) (B : List (Acc V)) (hB : a.loc ∉ locs B) : ∀ (m : Nat → V),
    ((applyAcc m a).bind fun m' => runAccs m' B) = (runAccs m B).bind fun r => applyAcc r a := by
  induction B with
  | nil => intro m; simp
  | cons b B ih =>
    intro m
    simp only [locs_cons, List.mem_cons, not_or] at hB
    rw [runAccs_cons, Option.bind_assoc]
    -- `a` moves behind `b`, then behind `B`
    calc ((applyAcc m a).bind fun m' => runAccs m' (b :: B))
        = ((applyAcc m a).bind fun m' => applyAcc m' b).bind fun m2 => runAccs m2 B := (Option.bind_assoc ..).symm
      _ = (applyAcc m b).bind fun m1 => (applyAcc m1 a).bind fun m2 => runAccs m2 B := by
          rw [applyAcc_swap a b hB.1, Option.bind_assoc]
      _ = _ := congrArg _ (funext (ih hB.2))

theorem runAccs_insert (P B : List (Acc V)) (a : Acc V) (hB : a.loc ∉ locs B) (m : Nat → V) :
    runAccs m (P ++ [a] ++ B) = (runAccs m (P ++ B)).bind fun r => applyAcc r a := by
  rw [List.append_assoc, runAccs_append, runAccs_append P B]
  cases runAccs m P with
  | none => simp
  | some m1 =>
    simp only [Option.bind_some, List.singleton_append, runAccs_cons]
    exact applyAcc_comm a B hB m1

end Cuckoo.Fine
