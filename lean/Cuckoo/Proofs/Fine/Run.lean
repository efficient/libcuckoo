import Cuckoo.Proofs.Fine.Inv
/-!
Accepted runs: the ghost components never block; the invariant, the per-thread / per-hold views of the serialization
(the accesses of a thread, or of one of its holds, appear in its episodes and its open log exactly as they appear in
the trace) and the key list of `E` (it only grows at its end) along a run.
-/
namespace Cuckoo.Fine
open Cuckoo.Proto

variable {V : Type} [DecidableEq V] {G : Nat → Nat → Nat} {mem0 : Nat → V} {g g' : GS V} {e : FEv V}

theorem grun_map_fs (tr : List (FEv V)) : ∀ g : GS V, (grun G g tr).map (·.fs) = run G g.fs tr := by
  induction tr with
  | nil => intro g; rfl
  | cons e es ih =>
    intro g
    rw [grun, run, ← gstep_fs]
    cases gstep G g e with
    | none => rfl
    | some g1 => exact ih g1

theorem grun_append (tr1 tr2 : List (FEv V)) : ∀ (g : GS V),
    grun G g (tr1 ++ tr2) = (grun G g tr1).bind fun g1 => grun G g1 tr2 := by
  induction tr1 with
  | nil => intro g; rfl
  | cons e es ih =>
    intro g
    simp only [List.cons_append, grun]
    cases gstep G g e with
    | none => rfl
    | some g1 => exact ih g1

theorem grun_cons_some {es : List (FEv V)} (h : grun G g (e :: es) = some g') :
    ∃ g1, gstep G g e = some g1 ∧ grun G g1 es = some g' := by
  simp only [grun] at h
  cases h1 : gstep G g e with
  | none => rw [h1] at h; cases h
  | some g1 => rw [h1] at h; exact ⟨g1, rfl, h⟩

theorem grun_induct {P : GS V → List (FEv V) → GS V → Prop} (nil : ∀ g, P g [] g)
    (cons : ∀ {g e g1 es g'}, gstep G g e = some g1 → P g1 es g' → P g (e :: es) g')
    (tr : List (FEv V)) : ∀ {g g' : GS V}, grun G g tr = some g' → P g tr g' := by
  induction tr with
  | nil => intro g g' hr; cases hr; exact nil g
  | cons e es ih =>
    intro g g' hr
    obtain ⟨g1, h1, hr1⟩ := grun_cons_some hr
    exact cons h1 (ih hr1)

theorem grun_rinv (tr : List (FEv V)) (hr : grun G g tr = some g') (h : RInv G mem0 g) : RInv G mem0 g' :=
  grun_induct (P := fun g _ g' => RInv G mem0 g → RInv G mem0 g') (fun _ h => h)
    (fun h1 ih h => ih (gstep_rinv h h1)) tr hr h

theorem accsSel_true (t : Tid) (tr : List (FEv V)) (hr : grun G g tr = some g') :
    accsSel G t (fun _ => true) g tr = accsOf t tr := by
  refine grun_induct (P := fun g tr _ => accsSel G t (fun _ => true) g tr = accsOf t tr) (fun _ => rfl) ?_ tr hr
  intro g e g1 es _ h1 ih
  simp only [accsSel, h1, ih]
  cases e with
  | data u a =>
    simp only [evSel, accsOf, and_true]
    split <;> simp
  | sync ev => simp [evSel, accsOf]

/-- the accesses of `t` during the holds whose number satisfies `Q`, as the serialization has them: in `t`'s
episodes, then in its open log -/
def viewQ (t : Tid) (Q : Nat → Bool) (g : GS V) : List (Acc V) :=
  selE t Q g.E ++ (if Q (g.hold t) = true then g.opn t else [])

omit [DecidableEq V] in
theorem viewQ_syncG (t : Tid) (Q : Nat → Bool) (g : GS V) (p' : PS) : viewQ t Q (syncG g p') = viewQ t Q g := rfl

omit [DecidableEq V] in
/-- the commit moves the open log to the end of `E`: no view changes -/
theorem viewQ_commitG (t u : Tid) (Q : Nat → Bool) (g : GS V) : viewQ t Q (commitG g u) = viewQ t Q g := by
  simp only [viewQ, commitG, selE_append, selE_cons, selE_nil, List.append_nil]
  by_cases hu : u = t
  · subst hu; simp
  · simp [hu, setL_other (Ne.symm hu)]

omit [DecidableEq V] in
/-- the end of a hold changes the hold number of a thread whose open log is empty: no view changes -/
theorem viewQ_endG (t u : Tid) (Q : Nat → Bool) (g : GS V) (ho : g.opn u = []) :
    viewQ t Q (endG g u) = viewQ t Q g := by
  simp only [viewQ, endG]
  by_cases hu : t = u
  · subst hu; simp [ho]
  · simp only [setN_other hu]

theorem viewQ_step (h : RInv G mem0 g) (t : Tid) (Q : Nat → Bool) (hst : gstep G g e = some g') :
    viewQ t Q g' = viewQ t Q g ++ evSel t Q g e := by
  cases gstep_cases hst with
  | pre u a mem' hs _ _ =>
    simp only [viewQ, evSel]
    by_cases hu : u = t
    · subst hu
      by_cases hq : Q (g.hold u) = true <;> simp [hq]
    · simp [hu, setL_other (Ne.symm hu)]
  | post u a mem' hs _ _ =>
    simp only [viewQ, evSel]
    by_cases hu : u = t
    · subst hu
      rw [selE_addTo_self u _ a Q g.E h.sorted (h.shr u hs).2 fun q hq e => e ▸ h.hold_le hq,
        h.open_nil_of_shrunk hs]
      by_cases hq : Q (g.hold u) = true <;> simp [hq]
    · rw [selE_addTo_other t u _ a Q hu]
      simp [hu]
  | sync e p' _ _ _ => rw [viewQ_syncG, evSel, List.append_nil]
  | release u l p' g1 _ hg1 =>
    rw [viewQ_syncG, evSel, List.append_nil]
    have h1 : viewQ t Q g1 = viewQ t Q g ∧ g1.opn u = [] := by
      rcases hg1 with ⟨hs, rfl⟩ | ⟨hs, rfl⟩
      · exact ⟨rfl, h.open_nil_of_shrunk hs⟩
      · exact ⟨viewQ_commitG t u Q g, setL_same _ _ _⟩
    split
    · rw [viewQ_endG t u Q g1 h1.2, h1.1]
    · exact h1.1

theorem viewQ_run (t : Tid) (Q : Nat → Bool) (tr : List (FEv V)) (hr : grun G g tr = some g') (h : RInv G mem0 g) :
    viewQ t Q g' = viewQ t Q g ++ accsSel G t Q g tr := by
  refine grun_induct (P := fun g tr g' => RInv G mem0 g → viewQ t Q g' = viewQ t Q g ++ accsSel G t Q g tr)
    ?_ ?_ tr hr h
  · intro g _; simp [accsSel]
  · intro g e g1 es g' h1 ih h
    rw [ih (gstep_rinv h h1), viewQ_step h t Q h1]
    simp only [accsSel, h1, List.append_assoc]

/-- from `g` to `g'` the hold numbers grow, and the key list of `E` grows at its end, by keys of holds that have not
ended in `g` -/
def KExt (g g' : GS V) : Prop :=
  (∀ u, g.hold u ≤ g'.hold u) ∧ ∃ rest, keysOf g'.E = keysOf g.E ++ rest ∧ ∀ k ∈ rest, g.hold k.1 ≤ k.2

omit [DecidableEq V] in
theorem KExt.of_eq {g g' : GS V} (hE : keysOf g'.E = keysOf g.E) (hh : g'.hold = g.hold) : KExt g g' :=
  ⟨fun u => Nat.le_of_eq (congrFun hh u).symm, [], by rw [hE, List.append_nil], fun _ hk => nomatch hk⟩

omit [DecidableEq V] in
theorem KExt.trans {g g1 g' : GS V} (h1 : KExt g g1) (h2 : KExt g1 g') : KExt g g' := by
  obtain ⟨m1, r1, hr1, hk1⟩ := h1
  obtain ⟨m2, r2, hr2, hk2⟩ := h2
  refine ⟨fun u => Nat.le_trans (m1 u) (m2 u), r1 ++ r2, by rw [hr2, hr1, List.append_assoc], fun k hk => ?_⟩
  rcases List.mem_append.1 hk with hk | hk
  · exact hk1 k hk
  · exact Nat.le_trans (m1 k.1) (hk2 k hk)

omit [DecidableEq V] in
theorem KExt.split {g g' : GS V} (h : KExt g g') :
    ∃ Ea Eb, g'.E = Ea ++ Eb ∧ keysOf Ea = keysOf g.E ∧ ∀ q ∈ Eb, g.hold q.tid ≤ q.hold := by
  obtain ⟨-, rest, hkeys, hrest⟩ := h
  obtain ⟨Ea, Eb, hE, hEa, hEb⟩ := List.map_eq_append_iff.1 hkeys
  exact ⟨Ea, Eb, hE, hEa, fun q hq => hrest (q.tid, q.hold) (hEb ▸ List.mem_map_of_mem hq)⟩

omit [DecidableEq V] in
theorem kext_commitG (g : GS V) (t : Tid) : KExt g (commitG g t) :=
  ⟨fun _ => Nat.le_refl _, [(t, g.hold t)], List.map_append, fun _ hk => by cases List.mem_singleton.1 hk; exact Nat.le_refl _⟩

omit [DecidableEq V] in
theorem kext_endG (g : GS V) (t : Tid) : KExt g (endG g t) := by
  refine ⟨fun u => ?_, [], (List.append_nil _).symm, fun _ hk => nomatch hk⟩
  show _ ≤ setN g.hold t (g.hold t + 1) u
  by_cases hu : u = t
  · rw [hu, setN_same]; exact Nat.le_succ _
  · rw [setN_other hu]; exact Nat.le_refl _

theorem keys_step (hst : gstep G g e = some g') : KExt g g' := by
  cases gstep_cases hst with
  | pre u a mem' _ _ _ => exact .of_eq rfl rfl
  | post u a mem' _ _ _ => exact .of_eq (keysOf_addTo ..) rfl
  | sync e p' _ _ _ => exact .of_eq rfl rfl
  | release u l p' g1 _ hg1 =>
    have h1 : KExt g g1 := by
      rcases hg1 with ⟨-, rfl⟩ | ⟨-, rfl⟩
      · exact .of_eq rfl rfl
      · exact kext_commitG g u
    refine h1.trans ?_
    split
    · exact kext_endG g1 u
    · exact .of_eq rfl rfl

theorem keys_run (tr : List (FEv V)) (hr : grun G g tr = some g') : KExt g g' :=
  grun_induct (P := fun g _ g' => KExt g g') (fun _ => .of_eq rfl rfl) (fun h1 ih => (keys_step h1).trans ih) tr hr

theorem commit_order (h : RInv G mem0 g) (tr : List (FEv V)) (hr : grun G g tr = some g') {p q : Ep V}
    (hp : p ∈ g'.E) (hq : q ∈ g'.E) (hA : p.hold < g.hold p.tid)
    (hB : g.hold q.tid ≤ q.hold) (hB' : g.hold q.tid = q.hold → (g.fs.ps.th q.tid).held = []) :
    ∃ A B C, g'.E = A ++ p :: (B ++ q :: C) := by
  obtain ⟨Ea, Eb, hE, hEa, hEb⟩ := (keys_run tr hr).split
  have hpa : p ∈ Ea := by
    rcases List.mem_append.1 (hE ▸ hp) with h' | h'
    · exact h'
    · have := hEb p h'
      omega
  have hqb : q ∈ Eb := by
    rcases List.mem_append.1 (hE ▸ hq) with h' | h'
    · -- an episode of `g.E` has the key of `q`: that hold had begun, and if it was current its thread held a lock
      obtain ⟨q0, hq0, hq0k⟩ := List.mem_map.1 (show (q.tid, q.hold) ∈ keysOf g.E from hEa ▸ List.mem_map_of_mem h')
      simp only [Prod.mk.injEq] at hq0k
      rcases h.keys q0 hq0 with h3 | h3
      · rw [hq0k.1, hq0k.2] at h3; omega
      · rw [hq0k.1, hq0k.2] at h3
        exact absurd (hB' h3.1.symm) (h.shr _ h3.2).1
    · exact h'
  obtain ⟨A, B1, hA'⟩ := List.append_of_mem hpa
  obtain ⟨B2, C, hB2⟩ := List.append_of_mem hqb
  exact ⟨A, B1 ++ B2, C, by rw [hE, hA', hB2]; simp⟩

end Cuckoo.Fine
