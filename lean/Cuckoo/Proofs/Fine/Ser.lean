import Cuckoo.Proofs.Fine.Episodes
/-!
The memory layer of the reduction, free of locks: `Ser` relates the committed episodes, the open logs and the
concurrent memory; three lemmas say how it moves when an access is logged, inserted into an episode, or a log commits.
The lock protocol only supplies their disjointness hypotheses.
-/
namespace Cuckoo.Fine
open Cuckoo.Proto

variable {V : Type}

theorem setL_apply (f : Tid → List (Acc V)) (t u : Tid) (l : List (Acc V)) :
    setL f t l u = if u = t then l else f u := rfl
@[simp] theorem setL_same (f : Tid → List (Acc V)) (t : Tid) (l : List (Acc V)) : setL f t l t = l := by
  simp [setL]
theorem setL_other {f : Tid → List (Acc V)} {t u : Tid} {l : List (Acc V)} (h : u ≠ t) :
    setL f t l u = f u := by
  simp [setL, h]

variable [DecidableEq V]

/-- thread `t`'s view: the committed episodes followed by `t`'s open log run serially, with the values `t` saw, to
the concurrent memory except where other threads have uncommitted accesses -/
def Ser (mem0 : Nat → V) (E : List (Ep V)) (opn : Tid → List (Acc V)) (mem : Nat → V) : Prop :=
  ∀ t, ∃ mt, runAccs mem0 (flat E ++ opn t) = some mt ∧ ∀ x, (∀ u, u ≠ t → x ∉ locs (opn u)) → mt x = mem x

variable {mem0 : Nat → V} {E : List (Ep V)} {opn : Tid → List (Acc V)} {mem : Nat → V}

/-- a pre-commit access goes to the end of its thread's view -/
theorem Ser.log (h : Ser mem0 E opn mem) (t : Tid) (a : Acc V) (mem' : Nat → V)
    (ha : applyAcc mem a = some mem') (hd : ∀ u, u ≠ t → a.loc ∉ locs (opn u)) :
    Ser mem0 E (setL opn t (opn t ++ [a])) mem' := by
  intro u
  obtain ⟨mu, hmu, hag⟩ := h u
  by_cases hu : u = t
  · subst hu
    obtain ⟨r', hr', hagr⟩ := applyAcc_congr (fun x => ∀ w, w ≠ u → x ∉ locs (opn w)) a mem mu mem' hd
      (fun x hx => (hag x hx).symm) ha
    refine ⟨r', ?_, fun x hx => ?_⟩
    · rw [setL_apply, if_pos rfl, ← List.append_assoc, runAccs_append, hmu, Option.bind_some, runAccs_single, hr']
    · refine (hagr x fun w hw => ?_).symm
      have := hx w hw
      rwa [setL_apply, if_neg hw] at this
  · refine ⟨mu, by rw [setL_apply, if_neg hu]; exact hmu, fun x hx => ?_⟩
    have hxt := hx t (Ne.symm hu)
    rw [setL_apply, if_pos rfl, locs_append, List.mem_append, not_or] at hxt
    rw [applyAcc_frame ha x fun _ e => hxt.2 (by simp [e])]
    refine hag x fun w hw => ?_
    by_cases hwt : w = t
    · subst hwt; exact hxt.1
    · have := hx w hw
      rwa [setL_apply, if_neg hwt] at this

/-- a post-commit access is inserted at the end of its episode, in the middle of every view -/
theorem Ser.insert {E1 E2 : List (Ep V)} {p : Ep V} (h : Ser mem0 (E1 ++ p :: E2) opn mem) (a : Acc V)
    (mem' : Nat → V) (ha : applyAcc mem a = some mem') (hd : ∀ u, a.loc ∉ locs (opn u))
    (hE2 : a.loc ∉ locs (flat E2)) :
    Ser mem0 (E1 ++ { p with accs := p.accs ++ [a] } :: E2) opn mem' := by
  intro u
  obtain ⟨mu, hmu, hag⟩ := h u
  obtain ⟨r', hr', hagr⟩ := applyAcc_congr (fun x => ∀ w, w ≠ u → x ∉ locs (opn w)) a mem mu mem'
    (fun w _ => hd w) (fun x hx => (hag x hx).symm) ha
  refine ⟨r', ?_, fun x hx => (hagr x hx).symm⟩
  have e : flat (E1 ++ { p with accs := p.accs ++ [a] } :: E2) ++ opn u =
      (flat E1 ++ p.accs) ++ [a] ++ (flat E2 ++ opn u) := by simp
  have e2 : flat E1 ++ p.accs ++ (flat E2 ++ opn u) = flat (E1 ++ p :: E2) ++ opn u := by simp
  rw [e, runAccs_insert _ _ _ (by rw [locs_append, List.mem_append, not_or]; exact ⟨hE2, hd u⟩), e2, hmu]
  exact hr'

/-- the open log of `t` becomes the last episode -/
theorem Ser.commit (h : Ser mem0 E opn mem) (t : Tid) (k : Nat)
    (hd : ∀ u, u ≠ t → ∀ x ∈ locs (opn t), x ∉ locs (opn u)) :
    Ser mem0 (E ++ [⟨t, k, opn t⟩]) (setL opn t []) mem := by
  obtain ⟨mt, hmt, hagt⟩ := h t
  have hoth : ∀ {w x}, x ∉ locs (setL opn t [] w) → w ≠ t → x ∉ locs (opn w) := by
    intro w x hx hwt; rwa [setL_apply, if_neg hwt] at hx
  intro u
  by_cases hu : u = t
  · subst hu
    refine ⟨mt, by simpa [setL_apply] using hmt, fun x hx => hagt x fun w hw => ?_⟩
    exact hoth (hx w hw) hw
  · obtain ⟨mu, hmu, hagu⟩ := h u
    obtain ⟨am, ham, hmt⟩ := runAccs_append_eq_some.1 hmt
    obtain ⟨am', ham', hmu⟩ := runAccs_append_eq_some.1 hmu
    cases ham.symm.trans ham'
    -- `u`'s log runs after `t`'s as it did before: they touch disjoint locations
    obtain ⟨r, hr, hagr⟩ := runAccs_congr (fun x => x ∉ locs (opn t)) (opn u) am mt mu
      (fun x hx hxt => hd u hu x hxt hx) (fun x hx => (runAccs_untouched _ _ _ hmt x hx).symm) hmu
    refine ⟨r, ?_, fun x hx => ?_⟩
    · simp only [flat_append, flat_cons, flat_nil, List.append_nil, setL_apply, if_neg hu, runAccs_append, ham,
        Option.bind_some, hmt, hr]
    · by_cases hxt : x ∈ locs (opn t)
      · rw [runAccs_untouched _ _ _ hr x (hd u hu x hxt)]
        refine hagt x fun w hw => ?_
        by_cases hwu : w = u
        · subst hwu; exact hd w hw x hxt
        · exact hoth (hx w hwu) hw
      · rw [← hagr x hxt]
        refine hagu x fun w hw => ?_
        by_cases hwt : w = t
        · subst hwt; exact hxt
        · exact hoth (hx w hw) hwt

theorem Ser.committed (h : Ser mem0 E opn mem) (hd : ∀ t u x, x ∈ locs (opn t) → x ∈ locs (opn u) → t = u) :
    ∃ am, runAccs mem0 (flat E) = some am ∧ ∀ x, (∀ t, x ∉ wlocs (opn t)) → am x = mem x := by
  obtain ⟨m0, hm0, -⟩ := h 0
  obtain ⟨am, ham, -⟩ := runAccs_append_eq_some.1 hm0
  refine ⟨am, ham, fun x hx => ?_⟩
  -- look at `x` through the view of a thread whose open log touches it, if any
  have hview : ∀ t, (∀ u, u ≠ t → x ∉ locs (opn u)) → am x = mem x := by
    intro t ht
    obtain ⟨mt, hmt, hag⟩ := h t
    rw [runAccs_append, ham, Option.bind_some] at hmt
    rw [← hag x ht, runAccs_unwritten _ _ _ hmt x (hx t)]
  by_cases hex : ∃ t, x ∈ locs (opn t)
  · obtain ⟨t, ht⟩ := hex
    exact hview t fun u hu hxu => hu (hd t u x ht hxu).symm
  · exact hview 0 fun u _ hxu => hex ⟨u, hxu⟩

theorem Ser.quiescent (h : Ser mem0 E opn mem) (hq : ∀ t, opn t = []) : runAccs mem0 (flat E) = some mem := by
  obtain ⟨am, ham, hag⟩ := h.committed fun t _ x ht => by rw [hq t] at ht; cases ht
  rw [ham]
  congr 1
  funext x
  exact hag x fun t => by rw [hq t]; exact List.not_mem_nil

end Cuckoo.Fine
