import Cuckoo.Proofs.Fine.Step
/-!
The reduction invariant `RInv` over accepted fine-grained prefixes, on top of the memory layer (`Ser`), the lock layer
(`accept_view`) and the characterisation of the step (`gstep_cases`): one preservation lemma per part of a step.
-/
namespace Cuckoo.Fine
open Cuckoo.Proto

variable {V : Type} [DecidableEq V] {G : Nat → Nat → Nat} {mem0 : Nat → V} {g g' : GS V} {e : FEv V}

/-- the invariant of the serialization `g` of an accepted trace (`G` guard map, `mem0` initial memory) -/
structure RInv (G : Nat → Nat → Nat) (mem0 : Nat → V) (g : GS V) : Prop where
  pinv : PInv g.fs.ps
  ser : Ser mem0 g.E g.opn g.fs.mem
  /-- an access in an open log: its thread is pre-commit and protects the location -/
  logged : ∀ t, ∀ a ∈ g.opn t, g.fs.shrunk t = false ∧ prot G g.fs.ps t a.loc
  /-- a post-commit thread still holds a lock and has the episode of its current hold in `E` -/
  shr : ∀ t, g.fs.shrunk t = true → (g.fs.ps.th t).held ≠ [] ∧ ∃ p ∈ g.E, p.tid = t ∧ p.hold = g.hold t
  /-- episodes belong to past holds, or to the current hold of a post-commit thread -/
  keys : ∀ p ∈ g.E, p.hold < g.hold p.tid ∨ (p.hold = g.hold p.tid ∧ g.fs.shrunk p.tid = true)
  /-- the episodes of one thread are in the order of its holds (in particular keys are distinct) -/
  sorted : g.E.Pairwise fun p q => p.tid = q.tid → p.hold < q.hold
  /-- nothing committed after the episode of a post-commit thread touches what that thread still guards -/
  later : g.E.Pairwise fun p q => g.fs.shrunk p.tid = true → p.hold = g.hold p.tid →
    ∀ x ∈ locs q.accs, g.fs.ps.holder (guard G g.fs.ps x) ≠ some p.tid

namespace RInv

theorem open_guard (h : RInv G mem0 g) (t : Tid) (x : Nat) (hx : x ∈ locs (g.opn t)) : prot G g.fs.ps t x := by
  obtain ⟨a, ha, rfl⟩ := List.mem_map.1 hx
  exact (h.logged t a ha).2

theorem open_nil_of_shrunk (h : RInv G mem0 g) {t : Tid} (hs : g.fs.shrunk t = true) : g.opn t = [] :=
  List.eq_nil_iff_forall_not_mem.2 fun a ha => by have := (h.logged t a ha).1; rw [hs] at this; cases this

theorem open_held (h : RInv G mem0 g) {t : Tid} (hne : g.opn t ≠ []) : (g.fs.ps.th t).held ≠ [] := by
  obtain ⟨a, ha⟩ := List.exists_mem_of_ne_nil _ hne
  exact prot_held h.pinv (h.logged t a ha).2

theorem open_disj (h : RInv G mem0 g) {t u : Tid} {x : Nat} (ht : x ∈ locs (g.opn t)) (hu : x ∈ locs (g.opn u)) :
    t = u := by
  -- whichever of the two holds the guard of `x` is the other as well; if neither does, both hold the whole array
  rcases h.open_guard t x ht with h1 | h1
  · exact prot_excl h.pinv (h.open_guard u x hu) h1
  · rcases h.open_guard u x hu with h2 | h2
    · exact (prot_excl h.pinv (.inr h1) h2).symm
    · exact Option.some.inj ((h.pinv.holdsGen_cur_zero h1).symm.trans (h.pinv.holdsGen_cur_zero h2))

theorem hold_le (h : RInv G mem0 g) {q : Ep V} (hq : q ∈ g.E) : q.hold ≤ g.hold q.tid := by
  rcases h.keys q hq with h1 | h1
  · exact Nat.le_of_lt h1
  · exact Nat.le_of_eq h1.1

end RInv

theorem rinit (G : Nat → Nat → Nat) (hp n : Nat) (hn : 0 < n) (mem0 : Nat → V) : RInv G mem0 (ginit hp n mem0) where
  pinv := init_inv hp n hn
  ser _ := ⟨mem0, rfl, fun _ _ => rfl⟩
  logged _ _ ha := nomatch ha
  shr _ hs := nomatch hs
  keys _ hp := nomatch hp
  sorted := List.Pairwise.nil
  later := List.Pairwise.nil

theorem rinv_data_pre (h : RInv G mem0 g) (t : Tid) (a : Acc V) (mem' : Nat → V) (hs : g.fs.shrunk t = false)
    (hc : canAccess G g.fs.ps t a.loc = true) (ha : applyAcc g.fs.mem a = some mem') :
    RInv G mem0 { g with fs := { g.fs with mem := mem' }, opn := setL g.opn t (g.opn t ++ [a]) } := by
  have hhold : g.fs.ps.holder (guard G g.fs.ps a.loc) = some t := access_holds hc
  refine { h with ser := ?_, logged := ?_ }
  · exact h.ser.log t a mem' ha fun u hu hx => hu (prot_excl h.pinv (h.open_guard u _ hx) hhold).symm
  · intro u b hb
    change b ∈ setL g.opn t (g.opn t ++ [a]) u at hb
    by_cases hu : u = t
    · subst hu
      rw [setL_same, List.mem_append, List.mem_singleton] at hb
      rcases hb with hb | rfl
      · exact h.logged u b hb
      · exact ⟨hs, Or.inl hhold⟩
    · rw [setL_other hu] at hb
      exact h.logged u b hb

theorem rinv_data_post (h : RInv G mem0 g) (t : Tid) (a : Acc V) (mem' : Nat → V) (hs : g.fs.shrunk t = true)
    (hc : canAccess G g.fs.ps t a.loc = true) (ha : applyAcc g.fs.mem a = some mem') :
    RInv G mem0 { g with fs := { g.fs with mem := mem' }, E := addTo t (g.hold t) a g.E } := by
  have hhold : g.fs.ps.holder (guard G g.fs.ps a.loc) = some t := access_holds hc
  have hno : ∀ u, a.loc ∉ locs (g.opn u) := by
    intro u hx
    have := prot_excl h.pinv (h.open_guard u _ hx) hhold
    subst this
    rw [h.open_nil_of_shrunk hs] at hx; cases hx
  have hnd := nodup_of_sorted h.sorted
  obtain ⟨-, p, hp, hpt, hpk⟩ := h.shr t hs
  obtain ⟨E1, E2, hE⟩ := List.append_of_mem hp
  -- what `later` is kept for: `t` still holds the guard of `a.loc`, so no episode committed after `t`'s touches it,
  -- and the access can be inserted into `t`'s episode in the middle of `E`
  have hE2 : a.loc ∉ locs (flat E2) := by
    intro hx
    obtain ⟨q, hq, hxq⟩ := (mem_locs_flat E2 _).1 hx
    have hl := h.later
    rw [hE, List.pairwise_append] at hl
    exact (List.pairwise_cons.1 hl.2.1).1 q hq (hpt ▸ hs) (hpt ▸ hpk) _ hxq (hpt ▸ hhold)
  refine { h with ser := ?_, shr := ?_, keys := ?_, sorted := ?_, later := ?_ }
  · show Ser mem0 (addTo t (g.hold t) a g.E) g.opn mem'
    rw [hE, addTo_split t _ a E1 E2 p (hE ▸ hnd) hpt hpk]
    exact (hE ▸ h.ser).insert a mem' ha hno hE2
  · intro u hu
    obtain ⟨h1, q, hq, hqt, hqk⟩ := h.shr u hu
    refine ⟨h1, addF t (g.hold t) a q, ?_, by simpa using hqt, by simpa using hqk⟩
    show _ ∈ addTo t (g.hold t) a g.E
    rw [addTo_eq]; exact List.mem_map_of_mem hq
  · intro q' hq'
    change q' ∈ addTo t (g.hold t) a g.E at hq'
    rw [addTo_eq, List.mem_map] at hq'
    obtain ⟨q, hq, rfl⟩ := hq'
    simpa using h.keys q hq
  · show (addTo t (g.hold t) a g.E).Pairwise _
    rw [addTo_eq, List.pairwise_map]
    exact h.sorted.imp fun hpq => by simpa using hpq
  · show (addTo t (g.hold t) a g.E).Pairwise _
    rw [addTo_eq, List.pairwise_map]
    refine (h.later.and hnd).imp ?_
    intro p q ⟨hl, hnk⟩ hs' hk' y hy
    simp only [addF_tid, addF_hold] at hs' hk' ⊢
    rcases addF_locs _ _ _ _ _ hy with hy' | ⟨hqt, hqk, hya⟩
    · exact hl hs' hk' y hy'
    · -- the new access is in the episode of `t`'s current hold, which is not `p`'s if `p` comes before it
      subst hya
      show g.fs.ps.holder _ ≠ some p.tid
      rw [hhold]
      intro e
      have e' : t = p.tid := Option.some.inj e
      exact hnk ⟨e'.symm.trans hqt.symm, by rw [hk', ← e', hqk]⟩

theorem rinv_commitG (h : RInv G mem0 g) (t : Tid) (hs : g.fs.shrunk t = false) (hheld : (g.fs.ps.th t).held ≠ []) :
    RInv G mem0 (commitG g t) := by
  -- `t` is pre-commit, so its episodes all belong to past holds: the key `(t, g.hold t)` is new and sorts last
  have hkt : ∀ q ∈ g.E, q.tid = t → q.hold < g.hold t := by
    intro q hq e
    rcases h.keys q hq with h1 | h1
    · rw [e] at h1; exact h1
    · rw [e, hs] at h1; cases h1.2
  have hne : ∀ p ∈ g.E, p.hold = g.hold p.tid → p.tid ≠ t := by
    intro p hp hk e
    have := hkt p hp e
    rw [hk, e] at this; omega
  refine { h with ser := ?_, logged := ?_, shr := ?_, keys := ?_, sorted := ?_, later := ?_ }
  · exact h.ser.commit t _ fun u hu x hxt hxu => hu (h.open_disj hxt hxu).symm
  · intro u b hb
    change b ∈ setL g.opn t [] u at hb
    by_cases hu : u = t
    · rw [hu, setL_same] at hb; cases hb
    · rw [setL_other hu] at hb
      exact ⟨(setB_other hu).trans (h.logged u b hb).1, (h.logged u b hb).2⟩
  · intro u hu
    by_cases hut : u = t
    · subst hut
      exact ⟨hheld, ⟨u, g.hold u, g.opn u⟩, List.mem_append_right _ (List.mem_singleton_self _), rfl, rfl⟩
    · change setB g.fs.shrunk t true u = true at hu
      rw [setB_other hut] at hu
      obtain ⟨h1, q, hq, hqk⟩ := h.shr u hu
      exact ⟨h1, q, List.mem_append_left _ hq, hqk⟩
  · intro q hq
    show q.hold < g.hold q.tid ∨ (q.hold = g.hold q.tid ∧ setB g.fs.shrunk t true q.tid = true)
    rcases List.mem_append.1 hq with hq | hq
    · by_cases hqt : q.tid = t
      · exact Or.inl (hqt ▸ hkt q hq hqt)
      · rw [setB_other hqt]; exact h.keys q hq
    · cases List.mem_singleton.1 hq; exact Or.inr ⟨rfl, setB_same _ _ _⟩
  · exact pairwise_snoc.2 ⟨h.sorted, hkt⟩
  · refine pairwise_snoc.2 ⟨h.later.imp_of_mem fun {p q} hp _ hl hs' hk => ?_, fun p hp _ hk x hx e => ?_⟩
    · change setB g.fs.shrunk t true p.tid = true at hs'
      rw [setB_other (hne p hp hk)] at hs'
      exact hl hs' hk
    · exact hne p hp hk (prot_excl h.pinv (h.open_guard t x hx) e)

theorem rinv_endG (h : RInv G mem0 g) (t : Tid) : RInv G mem0 (endG g t) := by
  -- the post-commit threads afterwards were post-commit before, with the same hold number
  have hpc : ∀ u, (endG g t).fs.shrunk u = true → g.fs.shrunk u = true ∧ (endG g t).hold u = g.hold u := by
    intro u hu
    change setB g.fs.shrunk t false u = true at hu
    by_cases hut : u = t
    · rw [hut, setB_same] at hu; cases hu
    · rw [setB_other hut] at hu
      exact ⟨hu, setN_other hut⟩
  refine { h with logged := ?_, shr := ?_, keys := ?_, later := ?_ }
  · intro u b hb
    obtain ⟨h2, h3⟩ := h.logged u b hb
    refine ⟨?_, h3⟩
    show setB g.fs.shrunk t false u = false
    by_cases hut : u = t
    · rw [hut, setB_same]
    · rw [setB_other hut]; exact h2
  · intro u hu
    rw [(hpc u hu).2]
    exact h.shr u (hpc u hu).1
  · intro q hq
    show q.hold < setN g.hold t (g.hold t + 1) q.tid ∨ (q.hold = setN g.hold t (g.hold t + 1) q.tid ∧
      setB g.fs.shrunk t false q.tid = true)
    by_cases hqt : q.tid = t
    · have := h.hold_le hq
      rw [hqt] at this ⊢
      rw [setN_same]; left; omega
    · rw [setN_other hqt, setB_other hqt]; exact h.keys q hq
  · exact h.later.imp fun hl hs hk => hl (hpc _ hs).1 (hk.trans (hpc _ hs).2)

/-- the change of the protocol state by a synchronisation event: whoever releases has no open log, whoever acquires
is pre-commit (rule T) -/
theorem rinv_syncG (h : RInv G mem0 g) {e : Ev} {p' : PS} (hacc : Proto.accept g.fs.ps e = some p')
    (hrel : ∀ u, relBy e = some u → g.opn u = [] ∧ (g.fs.shrunk u = true → (p'.th u).held ≠ []))
    (hT : ∀ u, acqBy e = some u → g.fs.shrunk u = false) : RInv G mem0 (syncG g p') := by
  have hv := accept_view G h.pinv hacc
  have hk : ∀ u, g.opn u ≠ [] → Keeps G g.fs.ps p' u := fun u hne => (hv u).1 fun e => hne (hrel u e).1
  refine { h with pinv := accept_inv _ _ e h.pinv hacc, logged := ?_, shr := ?_, later := ?_ }
  · intro u b hb
    exact ⟨(h.logged u b hb).1, (hk u (List.ne_nil_of_mem hb)).prot _ (h.logged u b hb).2⟩
  · intro u hu
    refine ⟨?_, (h.shr u hu).2⟩
    by_cases hr : relBy e = some u
    · exact (hrel u hr).2 hu
    · exact ((hv u).1 hr).held (h.shr u hu).1
  · refine h.later.imp fun hl hs hk x hx hc => hl hs hk x hx ((hv _).2 (fun e => ?_) x hc)
    have := hT _ e
    rw [hs] at this; cases this

theorem gstep_rinv (h : RInv G mem0 g) (hst : gstep G g e = some g') : RInv G mem0 g' := by
  cases gstep_cases hst with
  | pre t a mem' hs hc ha => exact rinv_data_pre h t a mem' hs hc ha
  | post t a mem' hs hc ha => exact rinv_data_post h t a mem' hs hc ha
  | sync e p' hp hrel hT => exact rinv_syncG h hp (fun u e => by rw [hrel] at e; cases e) hT
  | release t l p' g1 hp hg1 =>
    have h1 : RInv G mem0 g1 ∧ g1.opn t = [] ∧ g1.fs.ps = g.fs.ps := by
      rcases hg1 with ⟨hs, rfl⟩ | ⟨hs, rfl⟩
      · exact ⟨h, h.open_nil_of_shrunk hs, rfl⟩
      · exact ⟨rinv_commitG h t hs fun hc => (h.pinv.held_nil_iff t).1 hc l (accept_release_iff.1 hp).1,
          setL_same _ _ _, rfl⟩
    obtain ⟨h1, ho, hps⟩ := h1
    rw [← hps] at hp
    split
    next he =>
      refine rinv_syncG (rinv_endG h1 t) hp (fun u e => ?_) (fun u e => nomatch e)
      cases e
      exact ⟨ho, fun hs => by rw [show (endG g1 t).fs.shrunk t = false from setB_same _ _ _] at hs; cases hs⟩
    next he =>
      refine rinv_syncG h1 hp (fun u e => ?_) (fun u e => nomatch e)
      cases e
      exact ⟨ho, fun _ => he⟩

end Cuckoo.Fine
