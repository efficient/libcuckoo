import Cuckoo.Proofs.Fine.RunAccs
/-!
Lists of episodes: `flat`, `addTo` (extends exactly the episode with the given key = thread and hold number), the
accesses `selE` of one thread (and of some of its holds) in an episode list, and the key list.
-/
namespace Cuckoo.Fine
open Cuckoo.Proto

variable {V : Type}

theorem pairwise_snoc {α : Type} {R : α → α → Prop} {l : List α} {a : α} :
    (l ++ [a]).Pairwise R ↔ l.Pairwise R ∧ ∀ b ∈ l, R b a := by
  simp [List.pairwise_append]

def sameKey (p q : Ep V) : Prop := p.tid = q.tid ∧ p.hold = q.hold

theorem nodup_of_sorted {E : List (Ep V)} (h : E.Pairwise fun p q => p.tid = q.tid → p.hold < q.hold) :
    E.Pairwise fun p q => ¬ sameKey p q :=
  h.imp fun hpq hk => by have := hpq hk.1; rw [hk.2] at this; omega

@[simp] theorem flat_nil : flat ([] : List (Ep V)) = [] := rfl
@[simp] theorem flat_cons (p : Ep V) (E : List (Ep V)) : flat (p :: E) = p.accs ++ flat E := by simp [flat]
@[simp] theorem flat_append (A B : List (Ep V)) : flat (A ++ B) = flat A ++ flat B := by simp [flat]

theorem mem_locs_flat (E : List (Ep V)) (x : Nat) : x ∈ locs (flat E) ↔ ∃ q ∈ E, x ∈ locs q.accs := by
  simp only [locs, flat, List.map_flatMap, List.mem_flatMap]

def addF (t : Tid) (k : Nat) (a : Acc V) (p : Ep V) : Ep V :=
  if p.tid = t ∧ p.hold = k then { p with accs := p.accs ++ [a] } else p

theorem addTo_eq (t : Tid) (k : Nat) (a : Acc V) (E : List (Ep V)) : addTo t k a E = E.map (addF t k a) := rfl

@[simp] theorem addF_tid (t : Tid) (k : Nat) (a : Acc V) (p : Ep V) : (addF t k a p).tid = p.tid := by
  simp only [addF]; split <;> rfl
@[simp] theorem addF_hold (t : Tid) (k : Nat) (a : Acc V) (p : Ep V) : (addF t k a p).hold = p.hold := by
  simp only [addF]; split <;> rfl

theorem addF_other (t : Tid) (k : Nat) (a : Acc V) (p : Ep V) (h : ¬ (p.tid = t ∧ p.hold = k)) : addF t k a p = p := by
  simp [addF, h]

theorem addF_locs (t : Tid) (k : Nat) (a : Acc V) (p : Ep V) (x : Nat) (h : x ∈ locs (addF t k a p).accs) :
    x ∈ locs p.accs ∨ (p.tid = t ∧ p.hold = k ∧ x = a.loc) := by
  simp only [addF] at h
  split at h
  next hk =>
    simp only [locs_append, List.mem_append, locs_cons, locs_nil, List.mem_singleton] at h
    exact h.imp id fun h => ⟨hk.1, hk.2, h⟩
  · exact Or.inl h

theorem addTo_of_no_key (t : Tid) (k : Nat) (a : Acc V) (E : List (Ep V)) (h : ∀ q ∈ E, ¬ (q.tid = t ∧ q.hold = k)) :
    addTo t k a E = E :=
  (List.map_congr_left fun q hq => addF_other t k a q (h q hq)).trans (List.map_id E)

theorem addTo_split (t : Tid) (k : Nat) (a : Acc V) (E1 E2 : List (Ep V)) (p : Ep V)
    (hn : (E1 ++ p :: E2).Pairwise fun p q => ¬ sameKey p q) (ht : p.tid = t) (hk : p.hold = k) :
    addTo t k a (E1 ++ p :: E2) = E1 ++ { p with accs := p.accs ++ [a] } :: E2 := by
  rw [List.pairwise_append, List.pairwise_cons] at hn
  obtain ⟨-, ⟨h2, -⟩, h3⟩ := hn
  have e1 := addTo_of_no_key t k a E1 fun q hq hh =>
    h3 q hq p (List.mem_cons_self ..) ⟨hh.1.trans ht.symm, hh.2.trans hk.symm⟩
  have e2 := addTo_of_no_key t k a E2 fun q hq hh => h2 q hq ⟨ht.trans hh.1.symm, hk.trans hh.2.symm⟩
  rw [addTo_eq] at e1 e2 ⊢
  rw [List.map_append, List.map_cons, e1, e2]
  simp [addF, ht, hk]

def selE (t : Tid) (Q : Nat → Bool) (E : List (Ep V)) : List (Acc V) :=
  flat (E.filter fun p => decide (p.tid = t) && Q p.hold)

@[simp] theorem selE_nil (t : Tid) (Q : Nat → Bool) : selE t Q ([] : List (Ep V)) = [] := rfl

theorem selE_append (t : Tid) (Q : Nat → Bool) (A B : List (Ep V)) : selE t Q (A ++ B) = selE t Q A ++ selE t Q B := by
  simp [selE, List.filter_append]

theorem selE_cons (t : Tid) (Q : Nat → Bool) (p : Ep V) (B : List (Ep V)) :
    selE t Q (p :: B) = (if p.tid = t ∧ Q p.hold = true then p.accs else []) ++ selE t Q B := by
  simp only [selE, List.filter_cons]
  by_cases h1 : p.tid = t <;> by_cases h2 : Q p.hold = true <;> simp [h1, h2]

theorem selE_eq_nil (t : Tid) (Q : Nat → Bool) (E : List (Ep V)) (h : ∀ p ∈ E, ¬ (p.tid = t ∧ Q p.hold = true)) :
    selE t Q E = [] := by
  rw [selE, List.filter_eq_nil_iff.2 fun p hp => by rw [Bool.and_eq_true, decide_eq_true_eq]; exact h p hp]
  rfl

theorem selE_key (E : List (Ep V)) (hnd : E.Pairwise fun p q => ¬ sameKey p q) (p : Ep V) (hp : p ∈ E) :
    selE p.tid (fun j => j == p.hold) E = p.accs := by
  obtain ⟨E1, E2, rfl⟩ := List.append_of_mem hp
  rw [List.pairwise_append, List.pairwise_cons] at hnd
  obtain ⟨-, ⟨h2, -⟩, h3⟩ := hnd
  rw [selE_append, selE_cons, selE_eq_nil _ _ E1, selE_eq_nil _ _ E2]
  · simp
  · exact fun q hq hh => h2 q hq ⟨hh.1.symm, (beq_iff_eq.1 hh.2).symm⟩
  · exact fun q hq hh => h3 q hq p (List.mem_cons_self ..) ⟨hh.1, beq_iff_eq.1 hh.2⟩

theorem selE_addTo_other (t u : Tid) (k : Nat) (a : Acc V) (Q : Nat → Bool) (hu : u ≠ t) (E : List (Ep V)) :
    selE t Q (addTo u k a E) = selE t Q E := by
  induction E with
  | nil => rfl
  | cons p E ih =>
    rw [addTo_eq] at ih ⊢
    rw [List.map_cons, selE_cons, selE_cons, ih]
    simp only [addF_tid, addF_hold]
    by_cases hp : p.tid = t
    · rw [addF_other]
      intro hh; exact hu (hh.1.symm.trans hp)
    · simp [hp]

/-- an access added to the episode of the latest hold of `t` lands at the very end of `t`'s accesses in `E` -/
theorem selE_addTo_self (t : Tid) (k : Nat) (a : Acc V) (Q : Nat → Bool) (E : List (Ep V))
    (hso : E.Pairwise fun p q => p.tid = q.tid → p.hold < q.hold) (hk : ∃ p ∈ E, p.tid = t ∧ p.hold = k)
    (hmax : ∀ q ∈ E, q.tid = t → q.hold ≤ k) :
    selE t Q (addTo t k a E) = selE t Q E ++ (if Q k = true then [a] else []) := by
  obtain ⟨p, hp, hpt, hpk⟩ := hk
  obtain ⟨E1, E2, rfl⟩ := List.append_of_mem hp
  have hE2 : ∀ q ∈ E2, ¬ (q.tid = t ∧ Q q.hold = true) := by
    intro q hq hh
    have h1 := (List.pairwise_cons.1 (List.pairwise_append.1 hso).2.1).1 q hq (hpt.trans hh.1.symm)
    have h2 := hmax q (by simp [hq]) hh.1
    omega
  rw [addTo_split t k a E1 E2 p (nodup_of_sorted hso) hpt hpk]
  simp only [selE_append, selE_cons, selE_eq_nil t Q E2 hE2, hpt, hpk, true_and, List.append_nil]
  by_cases hq : Q k = true <;> simp [hq]

def keysOf (E : List (Ep V)) : List (Tid × Nat) := E.map fun p => (p.tid, p.hold)

theorem keysOf_addTo (t : Tid) (k : Nat) (a : Acc V) (E : List (Ep V)) : keysOf (addTo t k a E) = keysOf E := by
  simp only [keysOf, addTo_eq, List.map_map]
  apply List.map_congr_left
  intro p _
  simp

end Cuckoo.Fine
