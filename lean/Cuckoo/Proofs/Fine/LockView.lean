import Cuckoo.Proofs.ProtoInv
import Cuckoo.Model.Fine
/-!
The lock layer of the reduction: what a thread protects (`prot`), and the two facts about an accepted protocol event
that the invariant needs (`accept_view`): a thread loses nothing unless it releases, and gains no guard unless it
acquires.
-/
namespace Cuckoo.Fine
open Cuckoo.Proto

/-- `t` protects location `x`: it holds the lock that guards `x`, or every lock of the current array (so that it
still protects `x` when the guard of `x` has moved to a lock array it appended) -/
def prot (G : Nat → Nat → Nat) (p : PS) (t : Tid) (x : Nat) : Prop :=
  p.holder (guard G p x) = some t ∨ HoldsGen p t p.curGen

theorem prot_held {G : Nat → Nat → Nat} {p : PS} (hp : PInv p) {t : Tid} {x : Nat} (h : prot G p t x) :
    (p.th t).held ≠ [] := fun hc => by
  rcases h with h | h
  · exact (hp.held_nil_iff t).1 hc _ h
  · exact (hp.held_nil_iff t).1 hc _ (hp.holdsGen_cur_zero h)

theorem prot_excl {G : Nat → Nat → Nat} {p : PS} (hp : PInv p) {t u : Tid} {x : Nat} (hu : prot G p u x)
    (ht : p.holder (guard G p x) = some t) : t = u := by
  rcases hu with h1 | h1
  · rw [h1] at ht; exact (Option.some.inj ht).symm
  · have := h1 _ (hp.held_range _ _ ht).2
    simp only [guard] at ht this
    rw [this] at ht; exact (Option.some.inj ht).symm

theorem guard_eq_of_gens (G : Nat → Nat → Nat) (p p' : PS) (h : p'.gens = p.gens) (x : Nat) :
    guard G p' x = guard G p x := by
  simp only [guard, PS.curGen, PS.curSize, h]

structure Keeps (G : Nat → Nat → Nat) (s s' : PS) (u : Tid) : Prop where
  prot : ∀ x, prot G s u x → prot G s' u x
  held : (s.th u).held ≠ [] → (s'.th u).held ≠ []

theorem accept_view (G : Nat → Nat → Nat) {s s' : PS} {e : Ev} (hp : PInv s) (ha : Proto.accept s e = some s')
    (u : Tid) :
    (relBy e ≠ some u → Keeps G s s' u) ∧
    (acqBy e ≠ some u → ∀ x, s'.holder (guard G s' x) = some u → s.holder (guard G s x) = some u) := by
  have hp' := accept_inv s s' e hp ha
  have hg := accept_gens ha
  have hH := fun m => accept_holder hp ha u m
  -- the guard of a location moves only when a lock array is appended: then the appending thread owns the table
  -- before and after, nobody else protects anything, and the new guards are new locks
  have hgd : s'.gens = s.gens ∨ ∃ t n, e = .append t n ∧ (s.th t).owner = true ∧ (s'.th t).owner = true := by
    cases e with
    | append t n =>
      obtain ⟨⟨ho, -⟩, rfl⟩ := accept_append_iff.1 ha
      exact .inr ⟨t, n, rfl, ho, by rw [appSt_th_same]; exact ho⟩
    | _ => exact .inl hg
  refine ⟨fun hr => ⟨fun x hx => ?_, fun hne => ?_⟩, fun hq x hx => ?_⟩
  · rcases hgd with hgd | ⟨t, n, rfl, ho, ho'⟩
    · unfold prot; rw [guard_eq_of_gens G _ _ hgd, curGen_congr hgd]
      exact hx.imp ((hH _).1 hr) fun h i hi => (hH _).1 hr (h i (hgd ▸ hi))
    · have : u = t := hx.elim (prot_excl hp (.inr ((hp.thr t).owner_all ho).1))
        fun h => hp.holdsGen_eq (l := ⟨s.curGen, 0⟩) h (hp.owner_held ho)
      exact .inr (this ▸ ((hp'.thr t).owner_all ho').1)
  · obtain ⟨m, hm⟩ := List.exists_mem_of_ne_nil _ hne
    exact List.ne_nil_of_mem (((hp'.thr u).held_iff m).2 ((hH m).1 hr (((hp.thr u).held_iff m).1 hm)))
  · have := (hH _).2 hq hx
    rcases hgd with hgd | ⟨t, n, rfl, -, -⟩
    · rwa [guard_eq_of_gens G _ _ hgd] at this
    · have := (hp.held_range _ _ this).1
      simp only [guard, PS.curGen, hg, gensAfter, List.length_append, List.length_singleton] at this
      omega

end Cuckoo.Fine
