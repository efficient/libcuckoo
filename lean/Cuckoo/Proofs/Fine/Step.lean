import Cuckoo.Proofs.Fine.LockView
import Cuckoo.Proofs.Fine.Ser
/-!
The ghost step as an inductive relation (`GStep`, `gstep_cases`).  The ghost update of a `release` is made of up to
three independent parts: the commit (unless the thread has committed already), the end of the hold (if no lock is
left), and the change of the protocol state.
-/
namespace Cuckoo.Fine
open Cuckoo.Proto

variable {V : Type}

theorem setB_same (f : Tid → Bool) (t : Tid) (b : Bool) : setB f t b t = b := by simp [setB]
theorem setB_other {f : Tid → Bool} {t u : Tid} {b : Bool} (h : u ≠ t) : setB f t b u = f u := by simp [setB, h]
theorem setB_setB (f : Tid → Bool) (t : Tid) (a b : Bool) : setB (setB f t a) t b = setB f t b := by
  funext u; simp only [setB]; split <;> rfl
theorem setB_self (f : Tid → Bool) (t : Tid) : setB f t (f t) = f := by
  funext u; simp only [setB]; split
  next e => rw [e]
  · rfl
theorem setN_same (f : Tid → Nat) (t : Tid) (n : Nat) : setN f t n t = n := by simp [setN]
theorem setN_other {f : Tid → Nat} {t u : Tid} {n : Nat} (h : u ≠ t) : setN f t n u = f u := by simp [setN, h]

/-- the commit point of thread `t`: its open log becomes the last episode -/
def commitG (g : GS V) (t : Tid) : GS V :=
  { fs := { g.fs with shrunk := setB g.fs.shrunk t true }, E := g.E ++ [⟨t, g.hold t, g.opn t⟩],
    opn := setL g.opn t [], hold := g.hold }

/-- the current hold of thread `t` ends -/
def endG (g : GS V) (t : Tid) : GS V :=
  { g with fs := { g.fs with shrunk := setB g.fs.shrunk t false }, hold := setN g.hold t (g.hold t + 1) }

/-- the protocol state changes -/
def syncG (g : GS V) (p' : PS) : GS V := { g with fs := { g.fs with ps := p' } }

/-- the ghost step from `g` on event `e`, by cases; in `release`, `g1` is `g` after the commit if this release is the
first of its hold -/
inductive GStep [DecidableEq V] (G : Nat → Nat → Nat) (g : GS V) : FEv V → GS V → Prop
  | pre (t : Tid) (a : Acc V) (mem' : Nat → V) : g.fs.shrunk t = false → canAccess G g.fs.ps t a.loc = true →
      applyAcc g.fs.mem a = some mem' →
      GStep G g (.data t a) { g with fs := { g.fs with mem := mem' }, opn := setL g.opn t (g.opn t ++ [a]) }
  | post (t : Tid) (a : Acc V) (mem' : Nat → V) : g.fs.shrunk t = true → canAccess G g.fs.ps t a.loc = true →
      applyAcc g.fs.mem a = some mem' →
      GStep G g (.data t a) { g with fs := { g.fs with mem := mem' }, E := addTo t (g.hold t) a g.E }
  | sync (e : Ev) (p' : PS) : Proto.accept g.fs.ps e = some p' → relBy e = none →
      (∀ t, acqBy e = some t → g.fs.shrunk t = false) → GStep G g (.sync e) (syncG g p')
  | release (t : Tid) (l : LockId) (p' : PS) (g1 : GS V) : Proto.accept g.fs.ps (.release t l) = some p' →
      (g.fs.shrunk t = true ∧ g1 = g ∨ g.fs.shrunk t = false ∧ g1 = commitG g t) →
      GStep G g (.sync (.release t l)) (syncG (if (p'.th t).held = [] then endG g1 t else g1) p')

variable [DecidableEq V] {G : Nat → Nat → Nat} {g g' : GS V} {e : FEv V}

theorem gstep_fs (g : GS V) (e : FEv V) : (gstep G g e).map (·.fs) = accept G g.fs e := by
  unfold gstep
  cases accept G g.fs e with
  | none => rfl
  | some s' =>
    cases e with
    | data t a => simp only [ghost, Option.map_some]; split <;> rfl
    | sync ev => cases ev <;> rfl

theorem accept_data_spec (s s' : FS V) (t : Tid) (a : Acc V) (h : accept G s (.data t a) = some s') :
    canAccess G s.ps t a.loc = true ∧ applyAcc s.mem a = some s'.mem ∧ s' = { s with mem := s'.mem } := by
  cases a with
  | read x v =>
    simp only [accept, Option.ite_none_right_eq_some] at h
    obtain ⟨hc, h⟩ := h
    cases h; exact ⟨hc.1, applyAcc_read.2 ⟨hc.2, rfl⟩, rfl⟩
  | write x v =>
    simp only [accept, Option.ite_none_right_eq_some] at h
    obtain ⟨hc, h⟩ := h
    cases h; exact ⟨hc, rfl, rfl⟩

omit [DecidableEq V] in
theorem ghost_release (g : GS V) (t : Tid) (l : LockId) (p' : PS) :
    ∃ g1, (g.fs.shrunk t = true ∧ g1 = g ∨ g.fs.shrunk t = false ∧ g1 = commitG g t) ∧
      ghost g { g.fs with ps := p', shrunk := setB g.fs.shrunk t (!(p'.th t).held.isEmpty) } (.sync (.release t l)) =
        syncG (if (p'.th t).held = [] then endG g1 t else g1) p' := by
  cases hsh : g.fs.shrunk t with
  | true =>
    refine ⟨g, .inl ⟨rfl, rfl⟩, ?_⟩
    by_cases he : (p'.th t).held = []
    · simp only [ghost, syncG, endG, hsh, List.isEmpty_iff.2 he, if_pos he, if_true, Bool.not_true]
    · have hs := setB_self g.fs.shrunk t
      rw [hsh] at hs
      simp only [ghost, syncG, hsh, List.isEmpty_eq_false_iff.2 he, hs, if_neg he, if_true, Bool.not_false,
        Bool.false_eq_true, if_false]
  | false =>
    refine ⟨_, .inr ⟨rfl, rfl⟩, ?_⟩
    by_cases he : (p'.th t).held = []
    · simp only [ghost, syncG, endG, commitG, hsh, List.isEmpty_iff.2 he, setB_setB, if_pos he, if_true,
        Bool.not_true, Bool.false_eq_true, if_false]
    · simp only [ghost, syncG, commitG, hsh, List.isEmpty_eq_false_iff.2 he, if_neg he, Bool.not_false,
        Bool.false_eq_true, if_false]

/-- the one place where the definitions of `Model/Fine.lean` are opened: outside this file nothing unfolds `gstep`,
`accept`, `syncStep` or `ghost`, the proofs about a step go by cases on `GStep` -/
theorem gstep_cases (hst : gstep G g e = some g') : GStep G g e g' := by
  simp only [gstep] at hst
  cases hacc : accept G g.fs e with
  | none => rw [hacc] at hst; cases hst
  | some s' =>
    rw [hacc] at hst; cases hst
    cases e with
    | data t a =>
      obtain ⟨hc, ha, hs'⟩ := accept_data_spec _ _ _ _ hacc
      rw [hs']
      cases hsh : g.fs.shrunk t with
      | true => simp only [ghost, hsh, if_true]; exact .post t a _ hsh hc ha
      | false => simp only [ghost, hsh]; exact .pre t a _ hsh hc ha
    | sync ev =>
      simp only [accept, syncStep] at hacc
      cases hp : Proto.accept g.fs.ps ev with
      | none => rw [hp] at hacc; cases hacc
      | some p' =>
        rw [hp] at hacc
        cases ev with
        | release t l =>
          cases hacc
          obtain ⟨g1, h1, e⟩ := ghost_release g t l p'
          rw [e]
          exact .release t l p' g1 hp h1
        | acquire t _ | append t _ =>
          cases hsh : g.fs.shrunk t with
          | true => simp [hsh] at hacc
          | false =>
            simp only [hsh, Bool.false_eq_true, if_false, Option.some.injEq] at hacc
            subst hacc
            exact .sync _ p' hp rfl fun u e => by cases e; exact hsh
        | _ => cases hacc; exact .sync _ p' hp rfl fun u e => nomatch e

end Cuckoo.Fine
