import Cuckoo.Proofs.ProtoInvBase
/-!
`PInv` holds in every reachable state (`reach_inv`).  An accepted event replaces the record of its own thread and leaves
the others alone, so the work is per thread: `SInv.other` says under which steps a record left alone keeps its part,
and `PInv.frame_locks` / `PInv.frame` then ask only for the part of the acting thread.  The three owner events change
what the other snapshots are compared with; there every other thread is parked (`owner_not_val`, `owner_not_pend`).
-/
namespace Cuckoo.Proto

theorem SInv.other {s s' : PS} {u : Tid} {x : TS} (hx : SInv s u x)
    (hhp : s'.hp = s.hp) (hrc : s'.rc = s.rc) (hgens : s'.gens = s.gens)
    (hown : x.owner = true → HoldsGen s u s.curGen → HoldsGen s' u s.curGen)
    (hd : ∀ z, (s.th z).dirty = true → (s'.th z).dirty = true ∧ ∀ g, HoldsGen s z g → HoldsGen s' z g) :
    SInv s' u x := by
  have hcg : s'.curGen = s.curGen := curGen_congr hgens
  constructor
  · rw [hrc]; exact hx.rc_le
  · rw [hgens]; exact hx.gen_lt
  · rw [hrc, hhp]; exact fun a b => (hx.snap_hp a b).imp id fun ⟨z, hz⟩ => ⟨z, (hd z hz).1⟩
  · rw [hrc, hcg]; exact fun a b => (hx.snap_gen a b).imp id fun ⟨z, hz, hg⟩ => ⟨z, (hd z hz).1, (hd z hz).2 _ hg⟩
  · rw [hrc, hcg, hhp]; exact hx.pend
  · rw [hrc, hcg, hhp]; exact hx.val
  · rw [hcg]; exact fun ho => ⟨hown ho (hx.owner_all ho).1, (hx.owner_all ho).2⟩
  · exact hx.dirty_owner

/-- frame lemma: an event of `t` that replaces its record and changes the lock table in `t`'s own entries only,
giving none of them up while `t` is an owner -/
theorem PInv.frame_locks {s : PS} (h : PInv s) (t : Tid) (x' : TS) (H' : LockId → Option Tid)
    (hiff_t : ∀ l, l ∈ x'.held ↔ H' l = some t)
    (hdesc : x'.held.Pairwise (fun a b => b < a))
    (hiff_o : ∀ u, u ≠ t → ∀ l, H' l = some u ↔ s.holder l = some u)
    (hrange : ∀ l, H' l = some t → l.gen < s.gens.length ∧ l.idx < s.gens.getD l.gen 0)
    (hkeep : x'.owner = true → ∀ l, s.holder l = some t → H' l = some t)
    (hdirty : x'.dirty = (s.th t).dirty)
    (hx : SInv s t x') :
    PInv { s with holder := H', th := upd s.th t x' } := by
  have hd : ∀ z, (s.th z).dirty = true → (upd s.th t x' z).dirty = true ∧
      ∀ g, HoldsGen s z g → HoldsGen { s with holder := H', th := upd s.th t x' } z g := by
    intro z hz
    by_cases hzt : z = t
    · subst hzt
      rw [upd_same, hdirty]
      exact ⟨hz, fun g hg i hi => hkeep (hx.dirty_owner (hdirty ▸ hz)) _ (hg i hi)⟩
    · rw [upd_other hzt]
      exact ⟨hz, fun g hg i hi => (hiff_o z hzt _).2 (hg i hi)⟩
  refine ⟨h.gens_ne, h.gens_pos, fun l u hl => ?_, fun u => ?_⟩
  · by_cases hu : u = t
    · subst hu; exact hrange l hl
    · exact h.held_range l u ((hiff_o u hu l).1 hl)
  · dsimp only
    by_cases hu : u = t
    · subst hu; rw [upd_same]
      exact ⟨hx.other rfl rfl rfl (fun ho hg i hi => hkeep ho _ (hg i hi)) hd, hiff_t, hdesc⟩
    · rw [upd_other hu]
      exact ⟨(h.thr u).toSInv.other rfl rfl rfl (fun _ hg i hi => (hiff_o u hu _).2 (hg i hi)) hd,
        fun l => ((h.thr u).held_iff l).trans (hiff_o u hu l).symm, (h.thr u).held_desc⟩

theorem PInv.frame {s : PS} (h : PInv s) (t : Tid) (x' : TS)
    (hheld : x'.held = (s.th t).held) (hdirty : x'.dirty = (s.th t).dirty) (hx : SInv s t x') :
    PInv { s with th := upd s.th t x' } :=
  h.frame_locks t x' s.holder (fun l => hheld ▸ (h.thr t).held_iff l) (hheld ▸ (h.thr t).held_desc) (fun _ _ _ => Iff.rfl)
    (fun l => h.held_range l t) (fun _ _ hl => hl) hdirty hx

theorem inv_rcLoad {s s' : PS} (h : PInv s) (t : Tid) (ha : accept s (.rcLoad t) = some s') : PInv s' := by
  obtain ⟨x', rfl, hx⟩ := accept_rcLoad_iff.1 ha
  have ht := (h.thr t).toSInv
  rcases hx with ⟨hp, hrc, rfl⟩ | ⟨hp, -, rfl⟩ | ⟨hp, rfl⟩
  · have hq := ht.pend hp
    obtain ⟨l, hl, hc⟩ := hq.one
    refine h.frame t _ rfl rfl { ht with pend := nofun, val := fun _ =>
      { ne := ?_, cur := ?_, rc := hrc, hp := hq.hp hrc, gen := hq.gen hrc, not_all := hq.not_all, not_owner := hq.not_owner } }
    · show (s.th t).held ≠ []
      rw [hl]; exact List.cons_ne_nil _ _
    · show ∀ m ∈ (s.th t).held, _
      rw [hl]; intro m hm; rw [List.mem_singleton.1 hm]; exact hc hrc
  · exact h.frame t _ rfl rfl { ht with pend := nofun, val := fun hh => { ht.val hh with } }
  · refine h.frame t _ rfl rfl { ht with
      rc_le := Nat.le_refl _, snap_hp := fun hh _ => ?_, snap_gen := fun hh _ => ?_,
      pend := fun hh => absurd (hp ▸ hh) Bool.false_ne_true, val := fun hh => ?_ }
    · simp only [Bool.and_eq_true] at hh
      exact Or.inl (ht.val hh.1.2).hp
    · simp only [Bool.and_eq_true] at hh
      exact Or.inl (ht.val hh.1.2).gen
    · exact { ht.val hh with rc := rfl }

theorem inv_hpLoad {s s' : PS} (h : PInv s) (t : Tid) (ha : accept s (.hpLoad t) = some s') : PInv s' := by
  obtain ⟨hp, rfl⟩ := accept_hpLoad_iff.1 ha
  have ht := (h.thr t).toSInv
  refine h.frame t _ rfl rfl { ht with
    snap_hp := fun _ _ => Or.inl rfl, pend := fun hh => absurd (hp ▸ hh) Bool.false_ne_true,
    val := fun hh => { ht.val hh with hp := rfl } }

theorem inv_genLoad {s s' : PS} (h : PInv s) (t : Tid) (ha : accept s (.genLoad t) = some s') : PInv s' := by
  obtain rfl := accept_genLoad_iff.1 ha
  have ht := (h.thr t).toSInv
  refine h.frame t _ rfl rfl { ht with
    gen_lt := curGen_lt s h.gens_ne, snap_gen := fun _ _ => Or.inl rfl,
    pend := fun hh => { ht.pend hh with gen := fun _ => rfl }, val := fun hh => { ht.val hh with gen := rfl } }

theorem inv_allBegin {s s' : PS} (h : PInv s) (t : Tid) (ha : accept s (.allBegin t) = some s') : PInv s' := by
  obtain ⟨⟨he, -⟩, rfl⟩ := accept_allBegin_iff.1 ha
  have ht := (h.thr t).toSInv
  -- `t` holds nothing, so it is neither pending nor validated nor an owner
  refine h.frame t _ rfl rfl { ht with pend := fun hh => ?_, val := fun hh => ?_, owner_all := fun hh => ?_ }
  · obtain ⟨l, h1, -⟩ := (ht.pend hh).one
    rw [he] at h1; cases h1
  · exact absurd he (ht.val hh).ne
  · exact absurd he (List.ne_nil_of_mem (h.owner_held hh))

theorem inv_allEnd {s s' : PS} (h : PInv s) (t : Tid) (ha : accept s (.allEnd t) = some s') : PInv s' := by
  obtain ⟨⟨hia, hall⟩, rfl⟩ := accept_allEnd_iff.1 ha
  have ht := (h.thr t).toSInv
  -- `t` is inside `lock_all`, so it is neither pending nor validated
  refine h.frame t _ rfl rfl { ht with
    pend := fun hh => ?_, val := fun hh => ?_,
    owner_all := fun _ => ⟨(holdsGen_cur_iff s h.gens_ne t).2 hall, rfl⟩, dirty_owner := fun _ => rfl }
  · exact Bool.noConfusion (hia.symm.trans (ht.pend hh).not_all)
  · exact Bool.noConfusion (hia.symm.trans (ht.val hh).not_all)

theorem PInv.acquire_core {s : PS} (h : PInv s) (t : Tid) (l : LockId) (x' : TS)
    (hfree : s.holder l = none)
    (hin : l.gen < s.gens.length ∧ l.idx < s.gens.getD l.gen 0)
    (hasc : ∀ m ∈ (s.th t).held, m < l)
    (hheld : x'.held = l :: (s.th t).held) (hdirty : x'.dirty = (s.th t).dirty) (hx : SInv s t x') :
    PInv { s with holder := updH s.holder l (some t), th := upd s.th t x' } := by
  -- the lock table only grows, by the entry of `l`
  have hfree' : ∀ {u}, s.holder l ≠ some u := by rw [hfree]; nofun
  refine h.frame_locks t x' _ (fun m => ?_) ?_ (fun u hu m => ?_) (fun m => ?_) (fun _ m => updH_eq_some hfree') hdirty hx
  · rw [hheld, updH_apply, List.mem_cons]
    by_cases hm : m = l
    · simp [hm]
    · simp only [hm, false_or, if_false]; exact (h.thr t).held_iff m
  · rw [hheld, List.pairwise_cons]; exact ⟨hasc, (h.thr t).held_desc⟩
  · exact updH_iff_other hfree' fun e => hu (Option.some.inj e).symm
  · rw [updH_apply]; split
    · next hm => exact fun _ => hm ▸ hin
    · exact h.held_range m t

theorem inv_acquire {s s' : PS} (h : PInv s) (t : Tid) (l : LockId) (ha : accept s (.acquire t l) = some s') : PInv s' := by
  obtain ⟨hfree, hin, hasc, ⟨-, hnp⟩, x', rfl, hx⟩ := accept_acquire_iff.1 ha
  have ht := (h.thr t).toSInv
  rcases hx with ⟨hia, rfl⟩ | ⟨hia, he, ⟨hhp, hgen, hlg⟩, rfl⟩ | ⟨-, h1, ⟨hv, hall⟩, rfl⟩
  · refine h.acquire_core t l _ hfree hin hasc rfl rfl { ht with
      pend := fun hh => absurd (hnp ▸ hh) Bool.false_ne_true,
      val := fun hh => Bool.noConfusion (hia.symm.trans (ht.val hh).not_all) }
  · have hno : (s.th t).owner = false := Bool.eq_false_iff.2 fun hh => List.ne_nil_of_mem (h.owner_held hh) he
    -- `l` is free, so nobody holds all of its array
    have hfr : ∀ z, ¬ HoldsGen s z l.gen := fun z hz => by
      have : s.holder l = some z := hz l.idx hin.2
      rw [hfree] at this
      cases this
    have hc : (s.th t).snapRc = s.rc → l.gen = s.curGen ∧ (s.th t).snapHp = s.hp ∧ (s.th t).snapGen = s.curGen := by
      intro hrc
      -- the array `t` saw is the current one: otherwise a resizer would hold all of it, `l` included
      have hcur : (s.th t).snapGen = s.curGen :=
        (ht.snap_gen hgen hrc).resolve_right fun ⟨z, _, hz⟩ => hfr z (hlg ▸ hz)
      -- and nobody is dirty: a dirty thread owns the current array, `l` included
      have hnd : ¬ ∃ z, (s.th z).dirty = true := fun ⟨z, hz⟩ =>
        hfr z (hlg.trans hcur ▸ ((h.thr z).owner_all ((h.thr z).dirty_owner hz)).1)
      exact ⟨hlg.trans hcur, (ht.snap_hp hhp hrc).resolve_right hnd, hcur⟩
    exact h.acquire_core t l _ hfree hin hasc (by rw [he]) rfl { ht with
      pend := fun _ =>
        { one := ⟨l, rfl, fun hrc => (hc hrc).1⟩, hp := fun hrc => (hc hrc).2.1, gen := fun hrc => (hc hrc).2.2,
          not_val := rfl, not_all := hia, not_owner := hno }, val := nofun }
  · have h2 := (ht.val hv).cur
    refine h.acquire_core t l _ hfree hin hasc rfl rfl { ht with
      pend := fun hh => absurd (hnp ▸ hh) Bool.false_ne_true,
      val := fun _ => { ht.val hv with ne := List.cons_ne_nil _ _, cur := fun m hm => ?_ } }
    rcases List.mem_cons.1 hm with rfl | hm
    · obtain ⟨a, ha⟩ := List.exists_mem_of_ne_nil _ h1
      rw [← hall a ha]; exact h2 a ha
    · exact h2 m hm

theorem PInv.release_core {s : PS} (h : PInv s) (t : Tid) (l : LockId) (x' : TS) (hl : s.holder l = some t)
    (hheld : x'.held = (s.th t).held.filter (· ≠ l)) (hown : x'.owner = false) (hdirty : x'.dirty = (s.th t).dirty)
    (hx : SInv s t x') : PInv { s with holder := updH s.holder l none, th := upd s.th t x' } := by
  refine h.frame_locks t x' _ (fun m => ?_) ?_ (fun u hu m => ?_) (fun m => ?_) (fun ho => ?_) hdirty hx
  · rw [hheld, List.mem_filter, updH_apply]
    by_cases hm : m = l
    · simp [hm]
    · simp only [hm, if_false, ne_eq, not_false_eq_true, decide_true, and_true]; exact (h.thr t).held_iff m
  · rw [hheld]; exact (h.thr t).held_desc.filter _
  · exact updH_iff_other (by rw [hl]; exact fun e => hu (Option.some.inj e).symm) nofun
  · exact fun hm => h.held_range m t (of_updH_eq_some (v := none) nofun hm)
  · rw [hown] at ho; cases ho

theorem inv_release {s s' : PS} (h : PInv s) (t : Tid) (l : LockId) (ha : accept s (.release t l) = some s') : PInv s' := by
  obtain ⟨hl, hnd, hnp, x', rfl, hx⟩ := accept_release_iff.1 ha
  have ht := (h.thr t).toSInv
  rcases hx with ⟨-, rfl⟩ | ⟨hne, rfl⟩
  · exact h.release_core t l _ hl rfl rfl rfl { ht with
      pend := fun hh => absurd (hnp ▸ hh) Bool.false_ne_true, val := nofun,
      owner_all := nofun, dirty_owner := fun hh => absurd (hnd ▸ hh) Bool.false_ne_true }
  · refine h.release_core t l _ hl rfl rfl rfl { ht with
      pend := fun hh => absurd (hnp ▸ hh) Bool.false_ne_true,
      val := fun hh => { ht.val hh with
        ne := hne, cur := fun m hm => (ht.val hh).cur m (List.mem_filter.1 hm).1, not_owner := rfl },
      owner_all := nofun, dirty_owner := fun hh => absurd (hnd ▸ hh) Bool.false_ne_true }

/-- rule R: an owner may replace the hashpower and advance the counter, as long as it is dirty while the counter has
not moved.  Nobody is validated and nobody waits for a validation with a current counter (`owner_not_val`,
`owner_not_pend`), so only the snapshot clauses have to be excused, by `z` being dirty. -/
theorem PInv.owner_step {s : PS} (h : PInv s) (z : Tid) (ho : (s.th z).owner = true) (v rc' : Nat) (d : Bool)
    (hrc : s.rc ≤ rc') (hd : rc' = s.rc → d = true) :
    PInv { s with hp := v, rc := rc', th := upd s.th z { s.th z with dirty := d } } := by
  refine ⟨h.gens_ne, h.gens_pos, h.held_range, fun u => ?_⟩
  have hu := h.thr u
  have hcur : (s.th u).snapRc = rc' → (s.th u).snapRc = s.rc ∧ (upd s.th z { s.th z with dirty := d } z).dirty = true := by
    intro b
    have hle := hu.rc_le
    have e : rc' = s.rc := by omega
    exact ⟨b.trans e, by rw [upd_same]; exact hd e⟩
  have hf : upd s.th z { s.th z with dirty := d } u = { s.th u with dirty := if u = z then d else (s.th u).dirty } := by
    by_cases e : u = z
    · subst e; simp only [upd_same, if_true]
    · simp only [upd_other e, if_neg e]
  dsimp only
  rw [hf]
  exact {
    held_iff := hu.held_iff
    held_desc := hu.held_desc
    rc_le := Nat.le_trans hu.rc_le hrc
    gen_lt := hu.gen_lt
    snap_hp := fun _ b => Or.inr ⟨z, (hcur b).2⟩
    snap_gen := fun a b => (hu.snap_gen a (hcur b).1).imp id fun ⟨z', hz', hg⟩ =>
      ⟨z, (hcur b).2, h.owner_unique ((h.thr z').dirty_owner hz') ho ▸ hg⟩
    pend := fun hp => { (hu.pend hp).stale (fun b => h.owner_not_pend ho hp (hcur b).1) v s.curGen with }
    val := fun hv => (h.owner_not_val ho hv).elim
    owner_all := hu.owner_all
    dirty_owner := fun hdu => by
      by_cases e : u = z
      · rw [e]; exact ho
      · rw [if_neg e] at hdu; exact hu.dirty_owner hdu }

theorem getD_append_lt (l : List Nat) (a i : Nat) (h : i < l.length) : (l ++ [a]).getD i 0 = l.getD i 0 := by
  simp only [List.getD_eq_getElem?_getD, List.getElem?_append_left h]

theorem getD_append_len (l : List Nat) (a : Nat) : (l ++ [a]).getD l.length 0 = a := by
  simp [List.getD_eq_getElem?_getD]

theorem mem_newLocks (g size : Nat) (m : LockId) :
    m ∈ ((List.range size).map (fun i => (⟨g, i⟩ : LockId))).reverse ↔ m.gen = g ∧ m.idx < size := by
  simp only [List.mem_reverse, List.mem_map, List.mem_range]
  constructor
  · rintro ⟨i, hi, rfl⟩; exact ⟨rfl, hi⟩
  · rintro ⟨rfl, hi⟩; exact ⟨m.idx, hi, rfl⟩

theorem desc_newLocks (g size : Nat) :
    (((List.range size).map (fun i => (⟨g, i⟩ : LockId))).reverse).Pairwise (fun a b => b < a) := by
  rw [List.pairwise_reverse, List.pairwise_map]
  refine List.Pairwise.imp ?_ List.pairwise_lt_range
  intro a b hab
  rw [LockId.lt_def]; exact Or.inr ⟨rfl, hab⟩

theorem appSt_curGen (s : PS) (z : Tid) (size : Nat) : (appSt s z size).curGen = s.gens.length := by
  simp [PS.curGen, appSt_gens]

theorem appSt_dirty (s : PS) (z : Tid) (size : Nat) (u : Tid) (hd : (s.th u).dirty = true) :
    ((appSt s z size).th u).dirty = true := by
  by_cases hu : u = z
  · subst hu; rw [appSt_th_same]
  · rw [appSt_th_other hu]; exact hd

/-- the lock table after `append`: the new array is `z`'s, and as no lock of it was held nothing else changes -/
theorem PInv.appSt_holder_iff {s : PS} (h : PInv s) (z : Tid) (size : Nat) (m : LockId) (u : Tid) :
    (appSt s z size).holder m = some u ↔ (m.gen = s.gens.length ∧ m.idx < size) ∧ u = z ∨ s.holder m = some u := by
  rw [appSt_holder]
  by_cases hc : m.gen = s.gens.length ∧ m.idx < size
  · have hm : s.holder m ≠ some u := fun hm => by have := (h.held_range m u hm).1; omega
    rw [if_pos hc]
    exact ⟨fun e => .inl ⟨hc, (Option.some.inj e).symm⟩, fun e => e.elim (fun e => e.2 ▸ rfl) fun e => absurd e hm⟩
  · rw [if_neg hc]
    exact ⟨.inr, fun e => e.resolve_left fun e => hc e.1⟩

theorem PInv.appSt_holdsGen {s : PS} (h : PInv s) (z : Tid) (size : Nat) (z' : Tid) (g : Nat) (hg : g < s.gens.length)
    (hz' : HoldsGen s z' g) : HoldsGen (appSt s z size) z' g := by
  intro i hi
  rw [appSt_gens, getD_append_lt _ _ _ hg] at hi
  exact (h.appSt_holder_iff ..).2 (.inr (hz' i hi))

/-- `append` by the owner `z`, seen from the snapshots and flags of any thread: every sound snapshot is excused, since
`z` is dirty and still holds all of the array that was current; nobody is validated or waits with a current counter;
and only `z` is an owner -/
theorem PInv.appSt_sinv {s : PS} (h : PInv s) {z : Tid} (ho : (s.th z).owner = true) (size : Nat) (u : Tid) :
    SInv (appSt s z size) u (s.th u) := by
  have hu := h.thr u
  have hzd : ((appSt s z size).th z).dirty = true := by rw [appSt_th_same]
  exact {
    rc_le := hu.rc_le
    gen_lt := by rw [appSt_gens, List.length_append]; exact Nat.lt_add_right _ hu.gen_lt
    snap_hp := fun _ _ => Or.inr ⟨z, hzd⟩
    snap_gen := fun a b => Or.inr <| by
      rcases hu.snap_gen a b with hc | ⟨z', hz', hg'⟩
      · rw [hc]
        exact ⟨z, hzd, h.appSt_holdsGen z size z _ (curGen_lt s h.gens_ne) ((h.thr z).owner_all ho).1⟩
      · exact ⟨z', appSt_dirty s z size z' hz', h.appSt_holdsGen z size z' _ hu.gen_lt hg'⟩
    pend := fun hp => (hu.pend hp).stale (h.owner_not_pend ho hp) _ _
    val := fun hv => (h.owner_not_val ho hv).elim
    owner_all := fun hou => by
      obtain rfl := h.owner_unique hou ho
      refine ⟨fun i hi => ?_, (hu.owner_all ho).2⟩
      rw [appSt_curGen] at hi ⊢
      rw [appSt_gens, getD_append_len] at hi
      exact (h.appSt_holder_iff ..).2 (.inl ⟨⟨rfl, hi⟩, rfl⟩)
    dirty_owner := hu.dirty_owner }

theorem inv_appSt {s : PS} (h : PInv s) (z : Tid) (size : Nat) (ho : (s.th z).owner = true) (hsz : 0 < size) :
    PInv (appSt s z size) := by
  refine ⟨?_, fun n hn => ?_, fun m u hm => ?_, fun u => ?_⟩
  · simp [appSt_gens]
  · rcases List.mem_append.1 hn with hn | hn
    · exact h.gens_pos n hn
    · rw [List.mem_singleton.1 hn]; exact hsz
  · rw [appSt_gens, List.length_append]
    rcases (h.appSt_holder_iff ..).1 hm with ⟨hc, -⟩ | hm
    · rw [hc.1, getD_append_len]; exact ⟨Nat.lt_succ_self _, hc.2⟩
    · have := h.held_range m u hm
      rw [getD_append_lt _ _ _ this.1]; exact ⟨Nat.lt_add_right _ this.1, this.2⟩
  · have hu := h.thr u
    have hS := h.appSt_sinv ho size u
    by_cases huz : u = z
    · subst huz
      rw [appSt_th_same]
      -- `u` gets the new locks on top of its list; as an owner it is neither pending nor validated
      refine ⟨{ hS with pend := fun hp => ?_, val := fun hv => (h.owner_not_val ho hv).elim, dirty_owner := fun _ => ho },
        fun m => ?_, ?_⟩
      · exact Bool.noConfusion (ho.symm.trans (hu.pend hp).not_owner)
      · rw [h.appSt_holder_iff, List.mem_append, mem_newLocks, hu.held_iff m, and_iff_left rfl]
      · rw [List.pairwise_append]
        refine ⟨desc_newLocks _ _, hu.held_desc, fun a ha b hb => ?_⟩
        rw [mem_newLocks] at ha
        have := (h.held_range b u ((hu.held_iff b).1 hb)).1
        rw [LockId.lt_def]; omega
    · rw [appSt_th_other huz]
      refine ⟨hS, fun m => ?_, hu.held_desc⟩
      rw [h.appSt_holder_iff, hu.held_iff m]
      exact ⟨.inr, fun e => e.resolve_left fun e => huz e.2⟩

theorem init_inv (hp n : Nat) (hn : 0 < n) : PInv (init hp n) where
  gens_ne := List.cons_ne_nil _ _
  gens_pos m hm := by rw [List.mem_singleton.1 hm]; exact hn
  held_range l t hl := nomatch hl
  thr t := {
    held_iff := fun l => ⟨nofun, nofun⟩
    held_desc := List.Pairwise.nil
    rc_le := Nat.le_refl 0
    gen_lt := Nat.zero_lt_one
    snap_hp := nofun
    snap_gen := nofun
    pend := nofun
    val := nofun
    owner_all := nofun
    dirty_owner := nofun }

theorem accept_inv (s s' : PS) (e : Ev) (h : PInv s) (ha : accept s e = some s') : PInv s' := by
  cases e with
  | rcLoad t => exact inv_rcLoad h t ha
  | hpLoad t => exact inv_hpLoad h t ha
  | genLoad t => exact inv_genLoad h t ha
  | acquire t l => exact inv_acquire h t l ha
  | release t l => exact inv_release h t l ha
  | access t st => rw [(accept_access_iff.1 ha).2]; exact h
  | allBegin t => exact inv_allBegin h t ha
  | allEnd t => exact inv_allEnd h t ha
  | storeHp t v =>
    obtain ⟨ho, rfl⟩ := accept_storeHp_iff.1 ha
    exact h.owner_step t ho v s.rc true (Nat.le_refl _) (fun _ => rfl)
  | append t n =>
    obtain ⟨⟨ho, hn⟩, rfl⟩ := accept_append_iff.1 ha
    exact inv_appSt h t n ho hn
  | bumpRc t =>
    obtain ⟨ho, rfl⟩ := accept_bumpRc_iff.1 ha
    exact h.owner_step t ho s.hp (s.rc + 1) false (Nat.le_succ _) (fun e => absurd e (Nat.succ_ne_self _))
  | opEnd t k => rw [(accept_opEnd_iff.1 ha).2]; exact h
  | sectionEnd t => rw [(accept_sectionEnd_iff.1 ha).2]; exact h

theorem accept_holder {s s' : PS} {e : Ev} (hp : PInv s) (ha : accept s e = some s') (u : Tid) (m : LockId) :
    (relBy e ≠ some u → s.holder m = some u → s'.holder m = some u) ∧
    (acqBy e ≠ some u → s'.holder m = some u → s.holder m = some u) := by
  rw [accept_holder_eq ha]
  cases e with
  | acquire t l =>
    have hfree : s.holder l ≠ some u := by rw [(accept_acquire_iff.1 ha).1]; nofun
    exact ⟨fun _ => updH_eq_some hfree, fun hne => of_updH_eq_some hne⟩
  | release t l =>
    have hl := (accept_release_iff.1 ha).1
    exact ⟨fun hne => updH_eq_some (by rw [hl]; exact hne), fun _ => of_updH_eq_some nofun⟩
  | append t n =>
    have hiff := hp.appSt_holder_iff t n m u
    exact ⟨fun _ hm => hiff.2 (.inr hm), fun hne hm => (hiff.1 hm).resolve_left fun e => hne (e.2 ▸ rfl)⟩
  | _ => exact ⟨fun _ => id, fun _ => id⟩

theorem run_inv (evs : List Ev) : ∀ (s s' : PS), PInv s → run s evs = some s' → PInv s' := by
  induction evs with
  | nil => intro s s' h hr; cases hr; exact h
  | cons e es ih =>
    intro s s' h hr
    obtain ⟨s1, h1, hr⟩ := run_cons_eq_some.1 hr
    exact ih s1 s' (accept_inv s s1 e h h1) hr

theorem reach_inv (s : PS) (h : Reach s) : PInv s := by
  obtain ⟨hp, n, evs, hn, hr⟩ := h
  exact run_inv evs _ s (init_inv hp n hn) hr

end Cuckoo.Proto
