import Cuckoo.Props.C01Conc
import Cuckoo.Model.Lin
/-!
The checker's step function `applySpec` is the specification the refinement theorems mention: `applySpec m op r`
is `some m'` iff `C01Conc.specOf m (callOf op)` allows a response that projects to `r` (`Projects`: what the harness
observes of a `Conc.Resp`) and leads to the very same association list `m'`; a section (`secRun`) is a run of
`C02.specRun` in locked mode.
-/
namespace Cuckoo.Lin
open Cuckoo Cuckoo.Model Cuckoo.Spec Cuckoo.Model.Conc Cuckoo.Props

def LErr.toErr : LErr → Err
  | .lftl => .loadFactorTooLow
  | .maxhp => .maxHpExceeded
  | .badalloc => .badAlloc

/-- the call of the model (`Props/C01Conc.lean`) a harness call is; a section is not a single `Call` (see
`secRun_is_specRun`) -/
def callOf : LOp → Option (C01Conc.Call Nat Nat)
  | .find k => some (.lookup false k (fun v => .ret v false))
  | .update k v => some (.lookup false k (fun _ => .ret v false))
  | .erase k => some (.lookup true k (fun v => .ret v true))
  | .updatefn k d => some (.lookup false k (fun v => .ret (v + d) false))
  | .erasefn k d => some (.lookup true k (fun v => .ret v (v == d)))
  | .insert k v => some (.uprase k v false false (fun _ v => .ret v false))
  | .ioa k v => some (.uprase k v false false (fun _ _ => .ret v false))
  | .upsert k d => some (.uprase k d false false (fun _ v => .ret (v + d) false))
  | .rehash n => some (.rehash n)
  | .reserve n => some (.reserve n)
  | .clear => some .clear
  | .sec _ => none

/-- what the harness records of the response `resp` of the model:
`find` reports the value the functor saw; the boolean operations their flag, or the permitted failure;
`rehash`/`reserve`/`clear` answer `ok` (the model's `Resp.unit` does not say whether an explicit `rehash`/`reserve`
failed, so both `ok` and a failure are projections of it). -/
def Projects (op : LOp) (resp : Resp Nat) (r : LRes) : Prop :=
  match op with
  | .find _ => (resp = .bool (.ok false) [] ∧ r = .val none) ∨
      ∃ v, resp = .bool (.ok true) [⟨none, v⟩] ∧ r = .val (some v)
  | .rehash _ | .reserve _ => resp = .unit ∧ (r = .ok ∨ ∃ e, r = .fail e)
  | .clear => resp = .unit ∧ r = .ok
  | .sec _ => False
  | _ => (∃ b calls, resp = .bool (.ok b) calls ∧ r = .bool b) ∨ (∃ e, resp = .bool (.err e.toErr) [] ∧ r = .fail e)

/-- the operation of `Props/C02.lean` a call inside a section is (the read-only `find` / `size` / `other` are not
operations of `C02.Op`) -/
def ltToOp : LtOp → Option (C02.Op Nat Nat)
  | .insert k v => some (.ltInsert k v)
  | .erase k => some (.ltErase k)
  | .clear => some .clear
  | .rehash n => some (.rehash n)
  | .reserve n => some (.reserve n)
  | .find _ | .size | .other => none

/-- what the harness records of the observation `o` of a locked-mode call -/
def ProjLt (op : LtOp) (o : C02.Obs Nat) (r : LtRes) : Prop :=
  match op with
  | .insert _ _ => (∃ b, o = .ins (.ok b) ∧ r = .bool b) ∨ ∃ e, o = .ins (.err e.toErr) ∧ r = .fail e
  | .erase _ => ∃ n, o = .count n ∧ r = .bool (n == 1)
  | .clear => o = .unit (.ok ()) ∧ r = .ok
  | .rehash _ | .reserve _ => (∃ b, o = .ins (.ok b) ∧ r = .ok) ∨ ∃ e, o = .ins (.err e.toErr) ∧ r = .fail e
  | _ => False

/-- the executed part of a section `body` answering `rs`, as operations of `C02` with their observations:
a call that throws is the last one executed -/
inductive SecObs : List LtOp → List LtRes → List (C02.Op Nat Nat) → List (C02.Obs Nat) → Prop
  | done : SecObs [] [] [] []
  | abort {op rest cop o e} : ltToOp op = some cop → ProjLt op o (.fail e) → SecObs (op :: rest) [.fail e] [cop] [o]
  | step {op rest cop o r rs ops obs} : ltToOp op = some cop → ProjLt op o r → (∀ e, r ≠ .fail e) →
      SecObs rest rs ops obs → SecObs (op :: rest) (r :: rs) (cop :: ops) (o :: obs)

theorem resizeErr_toErr (e : LErr) : ResizeErr e.toErr := by
  cases e <;> simp [ResizeErr, LErr.toErr]

theorem expect_eq_some {b w : Bool} {m1 m' : AMap Nat Nat} : expect b w m1 = some m' ↔ b = w ∧ m1 = m' := by
  unfold expect; split <;> simp [*]

/-- what `Projects` is for the seven calls answering a flag (by `rfl` for each of them) -/
def ProjBool (resp : Resp Nat) (r : LRes) : Prop :=
  (∃ b calls, resp = .bool (.ok b) calls ∧ r = .bool b) ∨ (∃ e, resp = .bool (.err e.toErr) [] ∧ r = .fail e)

theorem projBool_ok {b : Bool} {calls : List (Call Nat)} {r : LRes} : ProjBool (.bool (.ok b) calls) r ↔ r = .bool b :=
  ⟨by rintro (⟨_, _, h, rfl⟩ | ⟨_, h, _⟩) <;> cases h; rfl, fun h => .inl ⟨_, _, rfl, h⟩⟩

theorem projBool_err {e' : Err} {r : LRes} : ProjBool (.bool (.err e') []) r ↔ ∃ e : LErr, e' = e.toErr ∧ r = .fail e :=
  ⟨by rintro (⟨_, _, h, _⟩ | ⟨e, h, rfl⟩) <;> cases h; exact ⟨e, rfl, rfl⟩, fun ⟨e, h, h'⟩ => .inr ⟨e, h ▸ rfl, h'⟩⟩

/-- a specification that fixes the response -/
theorem exists_resp {R : Resp Nat} {M m' : AMap Nat Nat} {P : Resp Nat → Prop} :
    (∃ resp, (resp = R ∧ m' = M) ∧ P resp) ↔ P R ∧ M = m' :=
  ⟨fun ⟨_, ⟨h1, h2⟩, hp⟩ => ⟨h1 ▸ hp, h2.symm⟩, fun ⟨hp, h2⟩ => ⟨R, ⟨rfl, h2.symm⟩, hp⟩⟩

theorem exists_fail_resp {m m' : AMap Nat Nat} {r : LRes} :
    (∃ resp, (∃ e, ResizeErr e ∧ resp = .bool (.err e) [] ∧ m' = m) ∧ ProjBool resp r) ↔ (∃ e, r = .fail e) ∧ m = m' :=
  ⟨fun ⟨_, ⟨_, _, e1, h⟩, hp⟩ => let ⟨e, _, he⟩ := projBool_err.mp (e1 ▸ hp); ⟨⟨e, he⟩, h.symm⟩,
   fun ⟨⟨e, he⟩, h⟩ => ⟨_, ⟨_, resizeErr_toErr e, rfl, h.symm⟩, projBool_err.mpr ⟨e, rfl, he⟩⟩⟩

/-! The arms of `applySpec`, as matches on the result `r`: stated in this shape, each of the lemmas below closes every
case of `r` in `applySpec_is_specOf`, the impossible ones included, by unfolding alone. -/

theorem val_ite (a : Option Nat) (M x : AMap Nat Nat) (r : LRes) :
    (match r with | .val v => if v = a then some M else none | _ => none) = some x ↔ r = .val a ∧ M = x := by
  cases r <;> simp

theorem bool_expect (w : Bool) (M x : AMap Nat Nat) (r : LRes) :
    (match r with | .bool b => expect b w M | _ => none) = some x ↔ r = .bool w ∧ M = x := by
  cases r <;> simp [expect_eq_some]

theorem bool_fail_expect (w : Bool) (M m x : AMap Nat Nat) (r : LRes) :
    (match r with | .bool b => expect b w M | .fail _ => some m | _ => none) = some x ↔
      (∃ e, r = .fail e) ∧ m = x ∨ r = .bool w ∧ M = x := by
  cases r <;> simp [expect_eq_some]

theorem spec_find (m m' : AMap Nat Nat) (k : Nat) (r : LRes) :
    (∃ resp, C01Conc.specOf m (.lookup false k fun v => .ret v false) resp m' ∧ Projects (.find k) resp r) ↔
      (match r with
        | .val r' => (match m.lookup k with
          | some v => if r' = some v then some (m.set k v) else none
          | none => if r' = none then some m else none)
        | _ => none) = some m' := by
  cases hl : m.lookup k <;> simp only [C01Conc.specOf, hl, exists_resp, val_ite] <;> simp [Projects]

/-- the `lookup` calls of the harness that answer a flag (functor `v ↦ ret (g v) (e v)`, never throwing): `specOf` fixes
the response (`ok false` on an absent key, `ok true` on a present one), `ProjBool` reads its flag -/
theorem spec_lookup (m m' : AMap Nat Nat) (ce : Bool) (k : Nat) (g : Nat → Nat) (e : Nat → Bool) (r : LRes) :
    (∃ resp, C01Conc.specOf m (.lookup ce k fun v => .ret (g v) (e v)) resp m' ∧ ProjBool resp r) ↔
      (match r with
        | .bool b => (match m.lookup k with
          | some v => expect b true (if ce && e v then m.erase k else m.set k (g v))
          | none => expect b false m)
        | _ => none) = some m' := by
  cases hl : m.lookup k <;> simp only [C01Conc.specOf, hl, exists_resp, projBool_ok, bool_expect]

/-- the inserting calls of the harness (`uprase` with a context-free functor `v ↦ ret (g v) false`): a permitted
failure leaving the map as it is, or a flag -/
theorem spec_uprase (m m' : AMap Nat Nat) (k v : Nat) (g : Nat → Nat) (r : LRes) :
    (∃ resp, C01Conc.specOf m (.uprase k v false false fun _ x => .ret (g x) false) resp m' ∧ ProjBool resp r) ↔
      (match r with
        | .bool b => (match m.lookup k with
          | some old => expect b false (m.set k (g old))
          | none => expect b true (m.add k v))
        | .fail _ => some m
        | _ => none) = some m' := by
  cases hl : m.lookup k <;>
    simp only [C01Conc.specOf, C02.upraseSpec, hl, Bool.false_eq_true, reduceIte, Bool.and_self, or_and_right, exists_or,
      exists_resp, exists_fail_resp, projBool_ok, bool_fail_expect]

/-- `rehash` and `reserve` (`specOf` and `Projects`, which are the same for both, unfolded) -/
theorem spec_resize (m m' : AMap Nat Nat) (r : LRes) :
    (∃ resp : Resp Nat, (resp = .unit ∧ m' = m) ∧ resp = .unit ∧ (r = .ok ∨ ∃ e, r = .fail e)) ↔
      (match r with | .ok | .fail _ => some m | _ => none) = some m' := by
  refine exists_resp.trans ?_
  cases r <;> simp

theorem spec_clear (m m' : AMap Nat Nat) (r : LRes) :
    (∃ resp, C01Conc.specOf m .clear resp m' ∧ Projects .clear resp r) ↔
      (match r with | .ok => some [] | _ => none) = some m' := by
  refine exists_resp.trans ?_
  cases r <;> simp [Projects, eq_comm]

/-- one call of a section as `secRun` takes it: a permitted failure leaves the map, any other answer is `ltStep` -/
def secStep (m : AMap Nat Nat) (op : LtOp) : LtRes → Option (AMap Nat Nat)
  | .fail _ => if op.mayFail then some m else none
  | r => ltStep m op r

theorem secStep_of_ne_fail (m : AMap Nat Nat) (op : LtOp) (r : LtRes) (hr : ∀ e, r ≠ .fail e) :
    secStep m op r = ltStep m op r := by
  cases r with
  | fail e => exact absurd rfl (hr e)
  | _ => rfl

theorem sec_insert (m m' : AMap Nat Nat) (k v : Nat) (r : LtRes) :
    (∃ o, C02.specStep true m (.ltInsert k v) o m' ∧ ProjLt (.insert k v) o r) ↔ secStep m (.insert k v) r = some m' := by
  constructor
  · rintro ⟨o, ⟨e, _, rfl, rfl⟩ | ⟨rfl, rfl⟩, ⟨b, hb, rfl⟩ | ⟨e', he', rfl⟩⟩
    · cases hb
    · rfl
    · cases hb; exact expect_eq_some.mpr ⟨rfl, rfl⟩
    · cases he'
  · intro h
    cases r with
    | bool b =>
      obtain ⟨rfl, rfl⟩ := expect_eq_some.mp h
      exact ⟨_, .inr ⟨rfl, rfl⟩, .inl ⟨_, rfl, rfl⟩⟩
    | fail e => cases h; exact ⟨_, .inl ⟨_, resizeErr_toErr e, rfl, rfl⟩, .inr ⟨e, rfl, rfl⟩⟩
    | _ => cases h

theorem sec_erase (m m' : AMap Nat Nat) (k : Nat) (r : LtRes) :
    (∃ o, C02.specStep true m (.ltErase k) o m' ∧ ProjLt (.erase k) o r) ↔ secStep m (.erase k) r = some m' := by
  constructor
  · rintro ⟨_, ⟨rfl, rfl⟩, _, hn, rfl⟩
    cases hn
    refine expect_eq_some.mpr ⟨?_, rfl⟩
    cases m.lookup k <;> rfl
  · intro h
    cases r with
    | bool b =>
      obtain ⟨rfl, rfl⟩ := expect_eq_some.mp h
      refine ⟨_, ⟨rfl, rfl⟩, _, rfl, ?_⟩
      cases m.lookup k <;> rfl
    | _ => cases h

theorem sec_clear (m m' : AMap Nat Nat) (r : LtRes) :
    (∃ o, C02.specStep true m .clear o m' ∧ ProjLt .clear o r) ↔ secStep m .clear r = some m' := by
  constructor
  · rintro ⟨_, ⟨_, rfl⟩, _, rfl⟩; rfl
  · intro h
    cases r with
    | ok => cases h; exact ⟨_, ⟨rfl, rfl⟩, rfl, rfl⟩
    | _ => cases h

theorem sec_rehash (m m' : AMap Nat Nat) (n : Nat) (r : LtRes) :
    (∃ o, C02.specStep true m (.rehash n) o m' ∧ ProjLt (.rehash n) o r) ↔ secStep m (.rehash n) r = some m' := by
  constructor
  · rintro ⟨_, ⟨rfl, _⟩, ⟨_, _, rfl⟩ | ⟨_, _, rfl⟩⟩ <;> rfl
  · intro h
    cases r with
    | ok => cases h; exact ⟨.ins (.ok true), ⟨rfl, _, rfl, trivial⟩, .inl ⟨_, rfl, rfl⟩⟩
    | fail e => cases h; exact ⟨_, ⟨rfl, _, rfl, resizeErr_toErr e⟩, .inr ⟨e, rfl, rfl⟩⟩
    | _ => cases h

theorem sec_step (m m' : AMap Nat Nat) (op : LtOp) (cop : C02.Op Nat Nat) (r : LtRes) (hc : ltToOp op = some cop) :
    (∃ o, C02.specStep true m cop o m' ∧ ProjLt op o r) ↔ secStep m op r = some m' := by
  cases op <;> cases hc
  case insert k v => exact sec_insert m m' k v r
  case erase k => exact sec_erase m m' k r
  case clear => exact sec_clear m m' r
  case rehash n => exact sec_rehash m m' n r
  -- `reserve` is `rehash` word for word in `specStep`, `ProjLt` and `ltStep`
  case reserve n => cases r <;> exact sec_rehash m m' n _

theorem ltStep_fail_none (m : AMap Nat Nat) (op : LtOp) (e : LErr) : ltStep m op (.fail e) = none := by
  cases op <;> rfl

theorem specRun_locked_cons (op : LtOp) (cop : C02.Op Nat Nat) (hcop : ltToOp op = some cop) (m m' : AMap Nat Nat)
    (ops : List (C02.Op Nat Nat)) (o : C02.Obs Nat) (obs : List (C02.Obs Nat)) :
    C02.specRun true m (cop :: ops) (o :: obs) m' ↔
      ∃ m1, C02.specStep true m cop o m1 ∧ C02.specRun true m1 ops obs m' := by
  cases op <;> cases hcop <;> exact Iff.rfl

theorem secRun_cons_ok (m : AMap Nat Nat) (op : LtOp) (rest : List LtOp) (r : LtRes) (rs : List LtRes)
    (hr : ∀ e, r ≠ .fail e) :
    secRun m (op :: rest) (r :: rs) = (ltStep m op r).bind (fun m' => secRun m' rest rs) := by
  cases r with
  | fail e => exact absurd rfl (hr e)
  | _ => simp only [secRun]; cases ltStep m op _ <;> rfl

theorem specRun_unlock (m m' : AMap Nat Nat) :
    C02.specRun true m [.unlock] [.unit (.ok ())] m' ↔ m' = m :=
  ⟨fun ⟨_, ⟨_, e1⟩, e2⟩ => e2.trans e1, fun e => ⟨m, ⟨rfl, rfl⟩, e⟩⟩

theorem secRun_locked_mp (m m' : AMap Nat Nat) (body : List LtOp) (rs : List LtRes)
    (hb : ∀ op ∈ body, (ltToOp op).isSome = true) (h : secRun m body rs = some m') :
    ∃ ops obs, SecObs body rs ops obs ∧ C02.specRun true m (ops ++ [.unlock]) (obs ++ [.unit (.ok ())]) m' := by
  fun_induction secRun m body rs
  case case1 m => exact ⟨[], [], .done, (specRun_unlock m m').mpr (Option.some.inj h).symm⟩
  case case2 m op _ e hmf =>
    obtain ⟨cop, hcop⟩ := Option.isSome_iff_exists.mp (hb op (List.mem_cons_self ..))
    obtain ⟨o, s1, s2⟩ := (sec_step m m op cop (.fail e) hcop).mpr (if_pos hmf)
    exact ⟨[cop], [o], .abort hcop s2,
      (specRun_locked_cons op cop hcop m m' _ o _).mpr ⟨m, s1, (specRun_unlock m m').mpr (Option.some.inj h).symm⟩⟩
  case case4 m op rest r rs _ m1 hst ih =>
    obtain ⟨cop, hcop⟩ := Option.isSome_iff_exists.mp (hb op (List.mem_cons_self ..))
    have hr : ∀ e, r ≠ .fail e := fun e he => by rw [he, ltStep_fail_none] at hst; cases hst
    obtain ⟨o, s1, s2⟩ := (sec_step m m1 op cop r hcop).mpr ((secStep_of_ne_fail m op r hr).trans hst)
    obtain ⟨ops, obs, t1, t2⟩ := ih (fun x hx => hb x (List.mem_cons_of_mem _ hx)) h
    exact ⟨cop :: ops, o :: obs, .step hcop s2 hr t1, (specRun_locked_cons op cop hcop m m' _ o _).mpr ⟨m1, s1, t2⟩⟩
  all_goals cases h

theorem secRun_locked_mpr (m m' : AMap Nat Nat) (body : List LtOp) (rs : List LtRes) (ops : List (C02.Op Nat Nat))
    (obs : List (C02.Obs Nat)) (hs : SecObs body rs ops obs)
    (hrun : C02.specRun true m (ops ++ [.unlock]) (obs ++ [.unit (.ok ())]) m') : secRun m body rs = some m' := by
  induction hs generalizing m with
  | done => rw [(specRun_unlock m m').mp hrun]; rfl
  | @abort op _ cop o e hc hp =>
    obtain ⟨m1, s1, t⟩ := (specRun_locked_cons op cop hc m m' _ o _).mp hrun
    rw [(specRun_unlock m1 m').mp t]
    exact (sec_step m m1 op cop (.fail e) hc).mp ⟨o, s1, hp⟩
  | @step op _ cop o r _ _ _ hc hp hne _ ih =>
    obtain ⟨m1, s1, t⟩ := (specRun_locked_cons op cop hc m m' _ o _).mp hrun
    rw [secRun_cons_ok m op _ r _ hne, ← secStep_of_ne_fail m op r hne, (sec_step m m1 op cop r hc).mp ⟨o, s1, hp⟩]
    exact ih m1 t

end Cuckoo.Lin
