import Cuckoo.Proofs.Life.Count
/-!
The ledger: under the invariant the stored pairs are in bijection with the occupied positions of the live view, which
are the occupied cells of the current array and those of the old array in stripes not yet migrated.
-/
namespace Cuckoo.Model
open Cuckoo
variable {κ ν : Type}

/-- the occupied positions of the old array in stripes not yet migrated -/
def liveOldPos (c : Cfg κ) (t : Table κ ν) : List Pos :=
  match t.old with
  | some o => (o.occPos c.S).filter (fun p => t.unmigB c p.1)
  | none => []

theorem liveOldPos_length (c : Cfg κ) (t : Table κ ν) : (liveOldPos c t).length = liveOld c t := by
  unfold liveOldPos liveOld Store.occPos
  cases t.old with
  | none => rfl
  | some o =>
    dsimp only
    rw [List.filter_map, List.length_map]
    rfl

theorem liveOldPos_nodup (c : Cfg κ) (t : Table κ ν) : (liveOldPos c t).Nodup := by
  unfold liveOldPos
  cases t.old with
  | none => exact List.nodup_nil
  | some o => exact List.Nodup.sublist List.filter_sublist (o.occPos_nodup c.S)

theorem mem_liveOldPos {c : Cfg κ} (hS : 0 < c.S) (t : Table κ ν) (b s : Nat) :
    (b, s) ∈ liveOldPos c t ↔ ∃ sl, t.at c (.old b s) = some sl := by
  unfold liveOldPos
  simp only [at_old_some_iff]
  cases t.old with
  | none => simp
  | some o =>
    rw [List.mem_filter, o.mem_occPos hS]
    simp only [Option.some.injEq, exists_eq_left']
    exact ⟨fun ⟨⟨sl, hg⟩, hu⟩ => ⟨sl, hu, hg⟩, fun ⟨sl, hu, hg⟩ => ⟨⟨sl, hg⟩, hu⟩⟩

/-- the positions of the live view that hold an element -/
def liveLocs (c : Cfg κ) (t : Table κ ν) : List Loc :=
  (t.cur.occPos c.S).map (fun p => Loc.cur p.1 p.2) ++ (liveOldPos c t).map (fun p => Loc.old p.1 p.2)

theorem liveLocs_length (c : Cfg κ) (t : Table κ ν) : (liveLocs c t).length = t.cur.count + liveOld c t := by
  unfold liveLocs Store.occPos
  rw [List.length_append, List.length_map, List.length_map, List.length_map, ← Store.count_eq_occIdx, liveOldPos_length]

theorem liveLocs_nodup (c : Cfg κ) (t : Table κ ν) : (liveLocs c t).Nodup := by
  refine List.nodup_append.mpr
    ⟨nodup_map_of_inj (t.cur.occPos_nodup c.S) fun p _ q _ e => Prod.ext (Loc.cur.inj e).1 (Loc.cur.inj e).2,
     nodup_map_of_inj (liveOldPos_nodup c t) fun p _ q _ e => Prod.ext (Loc.old.inj e).1 (Loc.old.inj e).2,
     fun a ha b hb e => ?_⟩
  obtain ⟨p, _, rfl⟩ := List.mem_map.mp ha
  obtain ⟨q, _, rfl⟩ := List.mem_map.mp hb
  cases e

theorem mem_liveLocs {c : Cfg κ} (hS : 0 < c.S) (t : Table κ ν) (p : Loc) :
    p ∈ liveLocs c t ↔ ∃ sl, t.at c p = some sl := by
  cases p with
  | cur b s => exact (by simp [liveLocs] : _ ↔ (b, s) ∈ t.cur.occPos c.S).trans (t.cur.mem_occPos hS b s)
  | old b s => exact (by simp [liveLocs] : _ ↔ (b, s) ∈ liveOldPos c t).trans (mem_liveOldPos hS t b s)

theorem liveLocs_keys_nodup {c : Cfg κ} {t : Table κ ν} (h : Inv c t) :
    ((liveLocs c t).map fun p => (t.at c p).map (·.key)).Nodup := by
  refine nodup_map_of_inj (liveLocs_nodup c t) fun p hp p' hp' e => ?_
  obtain ⟨sl, hsl⟩ := (mem_liveLocs h.S_pos t p).mp hp
  obtain ⟨sl', hsl'⟩ := (mem_liveLocs h.S_pos t p').mp hp'
  rw [hsl, hsl'] at e
  exact h.uniq p p' sl sl' hsl hsl' (Option.some.inj e)

/-- the stored pairs are as many as the live cells: the keys of the map and the keys at the occupied positions of the
live view are two duplicate-free lists with the same members -/
theorem rel_length {c : Cfg κ} {t : Table κ ν} {m : List (κ × ν)} (h : Inv c t) (hr : Rel c t m) :
    m.length = t.cur.count + liveOld c t := by
  have n1 : ((m.map Prod.fst).map some).Nodup :=
    nodup_map_of_inj hr.nodup (fun x _ y _ e => Option.some.inj e)
  have hperm := (List.perm_ext_iff_of_nodup n1 (liveLocs_keys_nodup h)).mpr fun x => by
    simp only [List.mem_map]
    constructor
    · rintro ⟨k, ⟨⟨k', v⟩, hmem, rfl⟩, rfl⟩
      obtain ⟨tag, p, hp⟩ := (hr.pairs k' v).mp hmem
      exact ⟨p, (mem_liveLocs h.S_pos t p).mpr ⟨_, hp⟩, by rw [hp]; rfl⟩
    · rintro ⟨p, hp, rfl⟩
      obtain ⟨sl, hsl⟩ := (mem_liveLocs h.S_pos t p).mp hp
      have hm : (sl.key, sl.val) ∈ m := (hr.pairs sl.key sl.val).mpr ⟨sl.tag, p, hsl⟩
      exact ⟨sl.key, ⟨(sl.key, sl.val), hm, rfl⟩, by rw [hsl]; rfl⟩
  rw [← liveLocs_length]
  simpa only [List.length_map] using hperm.length_eq

end Cuckoo.Model
