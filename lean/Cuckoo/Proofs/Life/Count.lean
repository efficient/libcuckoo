import Cuckoo.Proofs.Iter
import Cuckoo.Proofs.Defs
/-!
The quantities of the object ledger of `Props/C08Life.lean`.  An object is an occupied cell: `objCount` counts those of
both arrays, `husks` and `liveOld` split those of the old array by the migration flag of their stripe, through the list
`occIdx` of the occupied flat indices (`Proofs/Iter.lean`).
-/
namespace Cuckoo.Model
open Cuckoo
variable {κ ν : Type}

/-- number of constructed, not yet destroyed objects: the occupied cells of both arrays -/
def objCount (t : Table κ ν) : Nat :=
  t.cur.count + (match t.old with | some o => o.count | none => 0)

/-- moved-from objects awaiting the release of the old array: occupied cells of `old` in migrated stripes -/
def husks (c : Cfg κ) (t : Table κ ν) : Nat :=
  match t.old with
  | some o => (o.occIdx.filter (fun i => !t.unmigB c (i / c.S))).length
  | none => 0

/-- occupied cells of `old` in stripes that have not been migrated (still live elements) -/
def liveOld (c : Cfg κ) (t : Table κ ν) : Nat :=
  match t.old with
  | some o => (o.occIdx.filter (fun i => t.unmigB c (i / c.S))).length
  | none => 0

theorem objCount_split (c : Cfg κ) (t : Table κ ν) : objCount t = t.cur.count + liveOld c t + husks c t := by
  unfold objCount liveOld husks
  cases t.old with
  | none => rfl
  | some o =>
    dsimp only
    rw [Store.count_eq_occIdx o, List.length_eq_countP_add_countP (fun i => t.unmigB c (i / c.S)),
      List.countP_eq_length_filter, List.countP_eq_length_filter, Nat.add_assoc]
    congr 4
    funext i
    cases t.unmigB c (i / c.S) <;> rfl

theorem old_filter_zero (t : Table κ ν) (p : Nat → Bool) (hp : ∀ i, p i = false) :
    (match t.old with | some o => (o.occIdx.filter p).length | none => 0) = 0 := by
  cases t.old with
  | none => rfl
  | some o =>
    dsimp only
    rw [List.length_eq_zero_iff, List.filter_eq_nil_iff]
    intro i _
    rw [hp]
    exact Bool.false_ne_true

theorem liveOld_of_allMig (c : Cfg κ) (t : Table κ ν) (h : AllMig t) : liveOld c t = 0 :=
  old_filter_zero t _ fun i => h.unmigB (i / c.S)

theorem husks_of_allUnmig (c : Cfg κ) (t : Table κ ν) (h : ∀ b, t.unmigB c b = true) : husks c t = 0 :=
  old_filter_zero t _ fun i => by rw [h]; rfl

theorem old_count_split (c : Cfg κ) (t : Table κ ν) (o : Store κ ν) (ho : t.old = some o) :
    o.count = liveOld c t + husks c t := by
  have := objCount_split c t
  unfold objCount at this
  rw [ho, Nat.add_assoc] at this
  exact Nat.add_left_cancel this

/-- every object of the old array is a husk: its stripe has been migrated (so it is no live element) -/
def OldAllHusks (c : Cfg κ) (t : Table κ ν) : Prop :=
  ∀ o, t.old = some o → ∀ b s sl, o.get c.S b s = some sl → t.unmigB c b = false ∧ t.at c (.old b s) = none

/-- the one reason for which an old array is released: every stripe is flagged migrated -/
theorem oldAllHusks_of_allMig (c : Cfg κ) (t : Table κ ν) (h : AllMig t) : OldAllHusks c t := by
  intro o _ b s sl _
  exact ⟨h.unmigB b, h.at_old b s⟩

/-- the executable `liveCount` of `Model/Inv.lean` (used by the driver's self-check) counts the same cells -/
theorem liveCount_eq (c : Cfg κ) (t : Table κ ν) : t.liveCount c = t.cur.count + liveOld c t := by
  unfold Table.liveCount liveOld
  congr 1
  cases t.old with
  | none => rfl
  | some o =>
    dsimp only
    -- the model's fold counts the indices that are occupied and un-migrated
    rw [foldl_countP (fun i => (o.cells.getD i none).isSome && t.unmigB c (i / c.S)), Nat.zero_add,
      List.countP_eq_length_filter, Store.occIdx, List.filter_filter]
    · congr 2; funext i; exact Bool.and_comm _ _
    · intro n i
      unfold Table.unmigB
      cases o.cells.getD i none <;> cases t.locks[c.lockInd (i / c.S)]? with
      | none => rfl
      | some lk => cases hm : lk.migrated <;> simp [hm]

end Cuckoo.Model
