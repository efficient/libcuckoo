import Cuckoo.Proofs.Search
import Cuckoo.Proofs.Resize.Double
/-!
`cuckoo_insert_loop`, `cuckoo_fast_double` and `cuckoo_expand_simple` call each other, so what they guarantee (`Post` of
`Resize/Double.lean`, with the outcomes `InsQ`, `DblQ`, `ExpQ`) is proved for all three by one induction on the fuel
(`Rz.resize_all`); `rehash_post` is read off it.  The proofs split the equations `fastDouble_succ` / `expandSimple_succ`
(one `if`/`match` per exit): splitting the definitions, with their nested `let`s, costs several times as much.
-/
namespace Cuckoo.Model
open Cuckoo
variable {κ ν : Type}

/-- the temporary map of `cuckoo_expand_simple` -/
def tmpMap (c : Cfg κ) (auto : Bool) (t : Table κ ν) (newHp : Nat) : Table κ ν :=
  { (Table.init c (2 ^ newHp * c.S)) with workers := t.workers, mlf := if auto then t.mlf else 0.0, mhp := t.mhp }

/-- the table `cuckoo_expand_simple` ends with, given the filled temporary map -/
def Rz.swapIn (c : Cfg κ) (t nm : Table κ ν) : Table κ ν :=
  Rz.bumpRc { t.maybeResizeLocks c (2 ^ (nm.migrateAll c).hp) with cur := (nm.migrateAll c).cur }

theorem fastDouble_succ [DecidableEq κ] (c : Cfg κ) (locked auto : Bool) (fuel : Nat) (t : Table κ ν) (curHp : Nat) :
    fastDouble c locked auto (fuel + 1) t curHp =
      if !c.nothrowMove then expandSimple c locked auto fuel t (curHp + 1)
      else match t.checkResize c auto (curHp + 1) with
        | some e => (t, .err e)
        | none =>
          if t.hp ≠ curHp then (t, .ok false)
          else if curHp + 1 > c.hpLimit then (t.migrateAll c, .err .badAlloc)
          else (Rz.bumpRc (Rz.doubleCore c locked (t.migrateAll c) (curHp + 1)), .ok true) := by
  rw [fastDouble.eq_2]; rfl

/-- a type with a nothrow move doubles in place; seen from the hashpower the caller read -/
theorem fastDouble_self [DecidableEq κ] (c : Cfg κ) (locked auto : Bool) (fuel : Nat) (t : Table κ ν)
    (hn : c.nothrowMove = true) :
    fastDouble c locked auto (fuel + 1) t t.hp =
      match t.checkResize c auto (t.hp + 1) with
      | some e => (t, .err e)
      | none =>
        if t.hp + 1 > c.hpLimit then (t.migrateAll c, .err .badAlloc)
        else (Rz.bumpRc (Rz.doubleCore c locked (t.migrateAll c) (t.hp + 1)), .ok true) := by
  rw [fastDouble_succ, hn, if_neg (by decide)]
  split
  · rfl
  · exact if_neg (fun h => h rfl)

theorem expandSimple_succ [DecidableEq κ] (c : Cfg κ) (locked auto : Bool) (fuel : Nat) (t : Table κ ν) (newHp : Nat) :
    expandSimple c locked auto (fuel + 1) t newHp =
      match t.checkResize c auto newHp with
      | some e => (t, .err e)
      | none =>
        if newHp > c.hpLimit then (t.migrateAll c, .err .badAlloc)
        else
          match (t.migrateAll c).cur.elems.foldl (rebuildStep c (insertLoop c false fuel))
              (tmpMap c auto (t.migrateAll c) newHp, .ok ()) with
          | (_, .err e) => (t.migrateAll c, .err e)
          | (nm, .ok _) => (Rz.swapIn c (t.migrateAll c) nm, .ok true) := by
  rw [expandSimple.eq_2]; rfl

theorem expandSimple_mode [DecidableEq κ] (c : Cfg κ) (locked auto : Bool) (fuel : Nat) (t : Table κ ν) (n : Nat) :
    expandSimple c locked auto fuel t n = expandSimple c false auto fuel t n := by
  cases fuel with
  | zero => rfl
  | succ f => rw [expandSimple_succ, expandSimple_succ]

/-- the exits of `cuckoo_expand_simple`: a successful rebuild swapped a temporary map into the migrated table and
reports `true`; a failed one (in the model) returns the original table, possibly with its pending migration finished -/
theorem expandSimple_cases [DecidableEq κ] (c : Cfg κ) (locked auto : Bool) (fuel : Nat) (t : Table κ ν) (newHp : Nat)
    {r : Table κ ν × Res Bool} : expandSimple c locked auto fuel t newHp = r →
    match r with
    | (t', .ok b) => b = true ∧ ∃ nmf, t' = Rz.swapIn c (t.migrateAll c) nmf
    | (t', .err _) => t' = t ∨ t' = t.migrateAll c := by
  rintro rfl
  cases fuel with
  | zero => exact .inl rfl
  | succ fuel' =>
    rw [expandSimple_succ]
    cases t.checkResize c auto newHp with
    | some e => exact .inl rfl
    | none =>
      dsimp only
      by_cases hlim : newHp > c.hpLimit
      · rw [if_pos hlim]; exact .inr rfl
      · rw [if_neg hlim]
        generalize List.foldl _ _ _ = r
        obtain ⟨nmf, _ | e⟩ := r
        · exact ⟨rfl, nmf, rfl⟩
        · exact .inr rfl

/-- a successful rebuild leaves no old array (no invariant needed: `migrateAll` releases it) -/
theorem expandSimple_ok_old [DecidableEq κ] (c : Cfg κ) (locked auto : Bool) (fuel : Nat) (t t' : Table κ ν)
    (newHp : Nat) (r : Bool) (hres : expandSimple c locked auto fuel t newHp = (t', .ok r)) : t'.old = none := by
  obtain ⟨_, nmf, rfl⟩ := expandSimple_cases c locked auto fuel t newHp hres
  exact (maybeResizeLocks_spec c (t.migrateAll c) _).old

/-- the hashpower is capped where `reserve_calc` stops searching: below, `min n 66 ≤ hp` reads "at least `n`" -/
theorem cap_trans {a b d : Nat} (h : min a 66 ≤ b) (h' : min b 66 ≤ d) : min a 66 ≤ d :=
  Nat.le_trans (Nat.le_min.mpr ⟨h, Nat.min_le_right _ _⟩) h'

theorem cap_of_eq {a b : Nat} (h : b = a) : min a 66 ≤ b := h ▸ Nat.min_le_left a 66

/-- the insertion loop ends on a usable position or with a resize error, and never shrinks the table -/
def InsQ (c : Cfg κ) (t : Table κ ν) (k : κ) (r : Res InsPos) (t' : Table κ ν) : Prop :=
  min t.hp 66 ≤ t'.hp ∧
    match r with
    | .ok p => InsOK c t' k p
    | .err e => ResizeErr e

/-- a doubling from the current hashpower does not shrink the table; a failed one keeps the hashpower -/
def DblQ (t : Table κ ν) (curHp : Nat) : Res Bool → Table κ ν → Prop
  | .ok _, t' => curHp = t.hp → min t.hp 66 ≤ t'.hp
  | .err e, t' => ResizeErr e ∧ t'.hp = t.hp

/-- a rebuild ends fully migrated with at least the requested hashpower; a failed one keeps the hashpower -/
def ExpQ (t : Table κ ν) (newHp : Nat) : Res Bool → Table κ ν → Prop
  | .ok _, t' => AllMig t' ∧ min newHp 66 ≤ t'.hp
  | .err e, t' => ResizeErr e ∧ t'.hp = t.hp

theorem InsQ.not_dup {c : Cfg κ} {locked : Bool} {t : Table κ ν} {k : κ} {r : Table κ ν × Res InsPos}
    (P : Post c locked t (InsQ c t k) r) (hfr : ∀ tag v, ¬ t.Live c ⟨tag, k, v⟩) (b s : Nat) :
    r.2 ≠ .ok (.dup b s) := by
  intro e
  have q := P.res.2
  rw [e] at q
  obtain ⟨_, sl, hg, hk⟩ := q
  exact hfr sl.tag sl.val (hk ▸ (P.same.live sl).mp ⟨.cur b s, hg⟩)

namespace Rz

/-- what the three procedures guarantee with `fuel` steps left: the statement of the induction `resize_all` -/
structure ResizeSpec [DecidableEq κ] (c : Cfg κ) (ν : Type) (fuel : Nat) : Prop where
  ins : ∀ (locked : Bool) (t : Table κ ν) (k : κ), Inv c t → (locked = true → AllMig t) →
    Post c locked t (InsQ c t k) (insertLoop c locked fuel t k)
  dbl : ∀ (locked auto : Bool) (t : Table κ ν) (curHp : Nat), Inv c t → (locked = true → AllMig t) →
    Post c locked t (DblQ t curHp) (fastDouble c locked auto fuel t curHp)
  exp : ∀ (locked auto : Bool) (t : Table κ ν) (newHp : Nat), Inv c t → (locked = true → AllMig t) →
    Post c locked t (ExpQ t newHp) (expandSimple c locked auto fuel t newHp)

theorem fastDouble_ih [DecidableEq κ] (c : Cfg κ) (fuel : Nat) (ih : ResizeSpec c ν fuel) (locked auto : Bool) (t : Table κ ν)
    (curHp : Nat) (h : Inv c t) (hl : locked = true → AllMig t) :
    Post c locked t (DblQ t curHp) (fastDouble c locked auto (fuel + 1) t curHp) := by
  rw [fastDouble_succ]
  split
  · refine (ih.exp locked auto t (curHp + 1) h hl).mono fun r t' q => ?_
    cases r with
    | ok b => exact fun hc => cap_trans (Nat.le_trans (Nat.min_le_left _ _) (hc ▸ Nat.le_succ _)) q.2
    | err e => exact q
  · split
    · rename_i e he
      exact .stay h hl ⟨checkResize_some he, rfl⟩
    · rename_i hnone
      split
      · exact .stay h hl fun _ => Nat.min_le_left _ _
      · rename_i hhp
        obtain rfl : t.hp = curHp := Decidable.not_not.mp hhp
        split
        · exact .migrated h fun e => ⟨.badAlloc, e⟩
        · have m := migrateAll_spec c t h
          have p := (doubled_post c locked m.inv m.allmig (by rw [m.keeps.hp])
            (by rw [m.same.mhp, m.keeps.hp]; exact checkResize_none hnone)).of_resized (.of_step m.toStep)
          exact { p with
            res := fun _ => Nat.le_trans (Nat.min_le_left _ _) (Nat.le_trans (Nat.le_succ _) (Nat.le_of_eq p.res.symm)) }

theorem insertLoop_ih [DecidableEq κ] (c : Cfg κ) (fuel : Nat) (ih : ResizeSpec c ν fuel) (locked : Bool) (t : Table κ ν) (k : κ)
    (h : Inv c t) (hl : locked = true → AllMig t) :
    Post c locked t (InsQ c t k) (insertLoop c locked (fuel + 1) t k) := by
  rw [insertLoop.eq_2]
  obtain ⟨s1, u1, u2⟩ := lockTwoM_step c locked t (c.i1 t.hp k) (c.i2 t.hp k) h hl
  generalize t.lockTwoM c locked (c.i1 t.hp k) (c.i2 t.hp k) = t1 at *
  have ts := tryInsert_spec c t1 k s1.inv s1.keeps.hp u1 u2
  split
  · rename_i p hp
    rw [hp] at ts
    exact .of_step s1 hl ⟨cap_of_eq s1.keeps.hp, ts⟩
  · obtain ⟨s2, res⟩ := runCuckoo_step c locked t1 (c.i1 t.hp k) (c.i2 t.hp k) s1.inv (s1.allmig hl)
    generalize runCuckoo c locked t1 (c.i1 t.hp k) (c.i2 t.hp k) = r at s2 res
    obtain ⟨t2, out⟩ := r
    have st := s1.trans s2
    have hhp : t2.hp = t.hp := st.keeps.hp
    cases out with
    | ok b s =>
      obtain ⟨hb, hs, hfree, v1, v2⟩ := res
      exact (apply_recheckPos (fun p => (t2, Res.ok p)) ..).subst (motive := Post c locked t (InsQ c t k))
        (.of_step st hl ⟨cap_of_eq hhp, recheckPos_ok c t2 k b s st.inv hhp v1 v2 hb hs hfree⟩)
    | fuel => exact .of_step st hl ⟨cap_of_eq hhp, .fuel⟩
    | full =>
      -- table full: the doubling, then the restarted loop, are `Post`s of the induction hypothesis (`ih.dbl` from `t2`,
      -- `ih.ins` from `t3`), each carried back to `t` by `.of_resized`; the hashpower bounds chain by `cap_trans`
      have ds := (ih.dbl locked true t2 t.hp st.inv (st.allmig hl)).of_resized (.of_step st)
      dsimp only
      split
      · rename_i t3 e heq3
        rw [heq3] at ds
        exact { ds with res := ⟨cap_of_eq (ds.res.2.trans hhp), ds.res.1⟩ }
      · rename_i t3 a heq3
        rw [heq3] at ds
        have g : min t.hp 66 ≤ t3.hp := by rw [← hhp]; exact ds.res hhp.symm
        exact ((ih.ins locked t3 k ds.inv ds.allmig).of_resized ds.toResized).mono
          fun _ _ q => ⟨cap_trans g q.1, q.2⟩

theorem foldl_rebuild_err (c : Cfg κ) (ins : Table κ ν → κ → Table κ ν × Res InsPos) (L : List (Slot κ ν))
    (nm : Table κ ν) (e : Err) :
    L.foldl (rebuildStep c ins) (nm, .err e) = (nm, .err e) := by
  induction L with
  | nil => rfl
  | cons a L ih => rw [List.foldl_cons]; exact ih

theorem rebuildStep_ok (c : Cfg κ) (ins : Table κ ν → κ → Table κ ν × Res InsPos) (nm : Table κ ν)
    (sl : Slot κ ν) :
    rebuildStep c ins (nm, .ok ()) sl =
      match ins nm sl.key with
      | (nm, .err e) => (nm, .err e)
      | (nm, .ok (.dup _ _)) => (nm, .ok ())
      | (nm, .ok (.free b s)) => (nm.addTo c b s ⟨c.tag sl.key, sl.key, sl.val⟩, .ok ()) := rfl

/-- what inserting the elements `L` into the map `nm` one by one returns: on success a map that holds `L` beside what
`nm` held -/
structure Filled (c : Cfg κ) (nm : Table κ ν) (L : List (Slot κ ν)) (r : Table κ ν × Res Unit) : Prop where
  inv : Inv c r.1
  mhp : r.1.mhp = nm.mhp
  hp : min nm.hp 66 ≤ r.1.hp
  err : ∀ e, r.2 = .err e → ResizeErr e
  live : r.2 = .ok () → ∀ sl, r.1.Live c sl ↔ (nm.Live c sl ∨ sl ∈ L)

theorem Filled.cons {c : Cfg κ} {nm nm1 : Table κ ν} {a : Slot κ ν} {L : List (Slot κ ν)} {r : Table κ ν × Res Unit}
    (h1 : Filled c nm [a] (nm1, .ok ())) (h2 : Filled c nm1 L r) : Filled c nm (a :: L) r :=
  ⟨h2.inv, h2.mhp.trans h1.mhp, cap_trans h1.hp h2.hp, h2.err, fun e sl => by
    rw [h2.live e, h1.live rfl, List.mem_singleton, List.mem_cons, or_assoc]⟩

theorem rebuildStep_filled [DecidableEq κ] (c : Cfg κ) (fuel : Nat) (hI : ResizeSpec c ν fuel) (nm : Table κ ν) (a : Slot κ ν)
    (h : Inv c nm) (htag : a.tag = c.tag a.key) (hfresh : ∀ tag v, ¬ nm.Live c ⟨tag, a.key, v⟩) :
    Filled c nm [a] (rebuildStep c (insertLoop c false fuel) (nm, .ok ()) a) := by
  have is := hI.ins false nm a.key h nofun
  rw [rebuildStep_ok]
  generalize insertLoop c false fuel nm a.key = r at is ⊢
  obtain ⟨nm1, (⟨b, s⟩ | ⟨b, s⟩) | e⟩ := r
  · obtain ⟨a1, a2, _⟩ := addTo_spec c nm1 b s a.key a.val is.inv is.res.2
    rw [← htag] at a1 a2 ⊢
    exact ⟨a1, is.same.mhp, is.res.1, nofun, fun _ sl => by
      rw [a2, is.same.live, List.mem_singleton]⟩
  · exact absurd rfl (InsQ.not_dup is hfresh b s)
  · exact ⟨is.inv, is.same.mhp, is.res.1, fun _ he => by cases he; exact is.res.2, nofun⟩

theorem foldl_rebuild [DecidableEq κ] (c : Cfg κ) (fuel : Nat) (hI : ResizeSpec c ν fuel) :
    ∀ (L : List (Slot κ ν)) (nm : Table κ ν), Inv c nm →
    (∀ sl ∈ L, sl.tag = c.tag sl.key) → L.Pairwise (fun a b => a.key ≠ b.key) →
    (∀ sl ∈ L, ∀ tag v, ¬ nm.Live c ⟨tag, sl.key, v⟩) →
    Filled c nm L (L.foldl (rebuildStep c (insertLoop c false fuel)) (nm, .ok ())) := by
  intro L
  induction L with
  | nil => exact fun nm h _ _ _ => ⟨h, rfl, Nat.min_le_left _ _, nofun, fun _ sl => by simp⟩
  | cons a L ih =>
    intro nm h htag hpw hfresh
    rw [List.foldl_cons]
    have st := rebuildStep_filled c fuel hI nm a h (htag a List.mem_cons_self) (hfresh a List.mem_cons_self)
    generalize rebuildStep c (insertLoop c false fuel) (nm, .ok ()) a = r1 at st ⊢
    obtain ⟨nm1, _ | e⟩ := r1
    · have hpw' := List.pairwise_cons.mp hpw
      refine st.cons (ih nm1 st.inv (fun sl hsl => htag sl (List.mem_cons_of_mem _ hsl)) hpw'.2 ?_)
      intro sl hsl tag v hlive
      rcases (st.live rfl _).mp hlive with h1 | h1
      · exact hfresh sl (List.mem_cons_of_mem _ hsl) tag v h1
      · exact hpw'.1 sl hsl (congrArg Slot.key (List.mem_singleton.mp h1)).symm
    · rw [foldl_rebuild_err]
      exact ⟨st.inv, st.mhp, st.hp, st.err, nofun⟩

theorem tmpMap_hp (c : Cfg κ) (auto : Bool) (t1 : Table κ ν) (newHp : Nat) (hS : 0 < c.S) :
    (tmpMap c auto t1 newHp).hp = min newHp 66 := Spec.reserveCalc_pow _ _ hS

theorem tmpMap_empty (c : Cfg κ) (auto : Bool) (t1 : Table κ ν) (newHp : Nat) (h1 : Inv c t1)
    (hlim : t1.mhp = noMaxHp ∨ newHp ≤ t1.mhp) : Empty c (tmpMap c auto t1 newHp) :=
  init_spec c (2 ^ newHp * c.S) t1.workers (if auto = true then t1.mlf else 0.0) t1.mhp h1.S_pos h1.M_pow
    (by rw [Spec.reserveCalc_pow _ _ h1.S_pos]; exact hlim.imp_right (Nat.le_trans (Nat.min_le_left _ _)))

theorem elems_tag {c : Cfg κ} {t1 : Table κ ν} (h1 : Inv c t1) : ∀ sl ∈ t1.cur.elems, sl.tag = c.tag sl.key := by
  intro sl hsl
  obtain ⟨b, s, hg⟩ := (Store.mem_elems h1.S_pos _ sl).mp hsl
  exact (h1.cur_wf.place b s sl hg).1

theorem swapIn_post {c : Cfg κ} (locked : Bool) {t1 nm : Table κ ν} (h1 : Inv c t1) (ha : AllMig t1) (hn : Inv c nm)
    (hmhp : nm.mhp = t1.mhp) (hlive : ∀ sl, nm.Live c sl ↔ t1.Live c sl) :
    Post c locked t1 (fun _ t' => AllMig t' ∧ t'.hp = nm.hp) (swapIn c t1 nm, Res.ok true) := by
  have k := migrateAll_spec c nm hn
  have hg := maybeResizeLocks_spec c t1 (2 ^ (nm.migrateAll c).hp)
  obtain ⟨g1, g2, g3⟩ := replace_cur h1 ha
    (t' := { t1.maybeResizeLocks c (2 ^ (nm.migrateAll c).hp) with cur := (nm.migrateAll c).cur })
    k.inv.cur_wf (inv_curUniq (t := nm.migrateAll c) k.inv)
    (fun sl => ((k.allmig.live_iff_cur sl).symm.trans ((k.same.live sl).trans (hlive sl))).trans
      (ha.live_iff_cur sl))
    (by rw [← hmhp, ← k.same.mhp]; exact k.inv.limit) rfl (hg.rem.trans (h1.rem_eq.trans ha.nUnmig))
    hg.mlf hg.mhp hg.workers
  exact .bump g1 g2 hg.rc (fun _ => g3) ⟨g3, k.keeps.hp⟩

theorem expandSimple_ih [DecidableEq κ] (c : Cfg κ) (fuel : Nat) (ih : ResizeSpec c ν fuel) (locked auto : Bool) (t : Table κ ν)
    (newHp : Nat) (h : Inv c t) (hl : locked = true → AllMig t) :
    Post c locked t (ExpQ t newHp) (expandSimple c locked auto (fuel + 1) t newHp) := by
  rw [expandSimple_succ]
  split
  · rename_i e he
    exact .stay h hl ⟨checkResize_some he, rfl⟩
  · rename_i hnone
    split
    · exact .migrated h fun e => ⟨.badAlloc, e⟩
    · have m := migrateAll_spec c t h
      -- everything is migrated (`m`); the empty temporary map is filled with the elements of the current array (`fr`,
      -- each insertion by `ih.ins`) and then holds exactly the live elements (`hlive`), so `swapIn_post` applies to the
      -- migrated table and `.of_resized` carries the result back to `t`; a failed rebuild leaves only the migration
      have e := tmpMap_empty c auto (t.migrateAll c) newHp m.inv (by rw [m.same.mhp]; exact checkResize_none hnone)
      have fr := foldl_rebuild c fuel ih _ _ e.inv (elems_tag m.inv) (Store.elems_pairwise h.S_pos _ (inv_curUniq m.inv))
        (fun _ _ _ _ => e.no_live _)
      split
      · rename_i nmf e heq
        rw [heq] at fr
        exact .migrated h fun e => ⟨fr.err _ rfl, e⟩
      · rename_i nmf a heq
        rw [heq] at fr
        have hlive : ∀ sl, nmf.Live c sl ↔ (t.migrateAll c).Live c sl := by
          intro sl
          rw [fr.live rfl sl, m.allmig.live_iff_cur, Store.mem_elems h.S_pos]
          exact ⟨fun h0 => h0.elim (fun h0 => absurd h0 (e.no_live sl)) id, Or.inr⟩
        have p := (swapIn_post locked m.inv m.allmig fr.inv fr.mhp hlive).of_resized (.of_step m.toStep)
        exact { p with
          res := ⟨p.res.1, p.res.2 ▸ cap_trans (Nat.le_of_eq (tmpMap_hp c auto _ newHp h.S_pos).symm) fr.hp⟩ }

theorem resize_all [DecidableEq κ] (c : Cfg κ) (ν : Type) : ∀ fuel, ResizeSpec c ν fuel
  | 0 =>
    ⟨fun _ _ _ h hl => .stay h hl ⟨Nat.min_le_left _ _, .fuel⟩, fun _ _ _ _ h hl => .stay h hl ⟨.fuel, rfl⟩,
      fun _ _ _ _ h hl => .stay h hl ⟨.fuel, rfl⟩⟩
  | n + 1 =>
    have ih := resize_all c ν n
    ⟨insertLoop_ih c n ih, fastDouble_ih c n ih, expandSimple_ih c n ih⟩

end Rz

section
variable [DecidableEq κ] (c : Cfg κ) (locked auto : Bool) (fuel : Nat) (t : Table κ ν)

theorem insertLoop_post (k : κ) (h : Inv c t) (hl : locked = true → AllMig t) :
    Post c locked t (InsQ c t k) (insertLoop c locked fuel t k) := (Rz.resize_all c ν fuel).ins locked t k h hl

theorem fastDouble_post (curHp : Nat) (h : Inv c t) (hl : locked = true → AllMig t) :
    Post c locked t (DblQ t curHp) (fastDouble c locked auto fuel t curHp) :=
  (Rz.resize_all c ν fuel).dbl locked auto t curHp h hl

theorem expandSimple_post (newHp : Nat) (h : Inv c t) (hl : locked = true → AllMig t) :
    Post c locked t (ExpQ t newHp) (expandSimple c locked auto fuel t newHp) :=
  (Rz.resize_all c ν fuel).exp locked auto t newHp h hl

/-- each element of the list, whatever was inserted before it (`pre`), meets a map that satisfies the invariant and does
not hold its key: the insertion loop returns an empty, in-range cell or an error, never a duplicate, and `rebuildStep`
hands that cell to `addTo` -/
theorem rebuild_prefix (L : List (Slot κ ν)) (nm : Table κ ν)
    (hnm : Inv c nm) (htag : ∀ sl ∈ L, sl.tag = c.tag sl.key) (hpw : L.Pairwise (fun a b => a.key ≠ b.key))
    (hfresh : ∀ sl ∈ L, ∀ tag v, ¬ nm.Live c ⟨tag, sl.key, v⟩)
    (pre post : List (Slot κ ν)) (sl : Slot κ ν) (hsplit : L = pre ++ sl :: post) (acc : Table κ ν)
    (hacc : pre.foldl (rebuildStep c (insertLoop c false fuel)) (nm, .ok ()) = (acc, .ok ())) :
    match insertLoop c false fuel acc sl.key with
    | (nm1, .ok (.free b s)) =>
        nm1.cur.get c.S b s = none ∧ s < c.S ∧ b < 2 ^ nm1.hp ∧ b * c.S + s < nm1.cur.cells.size ∧
        rebuildStep c (insertLoop c false fuel) (acc, .ok ()) sl =
          (nm1.addTo c b s ⟨c.tag sl.key, sl.key, sl.val⟩, .ok ())
    | (_, .ok (.dup _ _)) => False
    | (nm1, .err e) => rebuildStep c (insertLoop c false fuel) (acc, .ok ()) sl = (nm1, .err e) := by
  subst hsplit
  rw [List.pairwise_append] at hpw
  have fr := Rz.foldl_rebuild c fuel (Rz.resize_all c ν fuel) pre nm hnm
    (fun x hx => htag x (List.mem_append_left _ hx)) hpw.1 (fun x hx => hfresh x (List.mem_append_left _ hx))
  rw [hacc] at fr
  have P := insertLoop_post c false fuel acc sl.key fr.inv nofun
  have hnd := InsQ.not_dup P fun tag v hl => ((fr.live rfl _).mp hl).elim
    (hfresh sl (List.mem_append_right _ List.mem_cons_self) tag v) (hpw.2.2 _ · sl List.mem_cons_self rfl)
  rw [Rz.rebuildStep_ok]
  generalize insertLoop c false fuel acc sl.key = r at P hnd ⊢
  obtain ⟨nm1, (⟨b, s⟩ | ⟨b, s⟩) | e⟩ := r
  · obtain ⟨hb, hs, he, _⟩ := P.res.2
    exact ⟨he, hs, cand_lt hb, cell_lt P.inv (cand_lt hb) hs, rfl⟩
  · exact absurd rfl (hnd b s)
  · rfl

theorem reserve_eq_rehash (c : Cfg κ) (locked : Bool) (t : Table κ ν) (n : Nat) :
    t.reserve c locked n = t.rehash c locked (Spec.reserveCalc c.S n) := rfl

/-- an explicit resize ends with at least the requested hashpower; a failed one keeps the hashpower -/
def RehashQ (t : Table κ ν) (n : Nat) : Res Bool → Table κ ν → Prop
  | .ok _, t' => min n 66 ≤ t'.hp
  | .err e, t' => ResizeErr e ∧ t'.hp = t.hp

theorem rehash_post (n : Nat) (h : Inv c t) (hl : locked = true → AllMig t) :
    Post c locked t (RehashQ t n) (t.rehash c locked n) := by
  unfold Table.rehash
  split
  · rename_i heq
    exact .stay h hl (cap_of_eq heq.symm)
  · refine (expandSimple_post c locked false _ t n h hl).mono fun r t' q => ?_
    cases r with
    | ok b => exact q.2
    | err e => exact q

/-- `cuckoo_expand_simple` never looks at the mode -/
theorem rehash_mode (n : Nat) : t.rehash c locked n = t.rehash c false n := by
  unfold Table.rehash
  rw [expandSimple_mode]

end

end Cuckoo.Model
