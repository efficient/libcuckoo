import Cuckoo.Proofs.Cell
/-!
`maybe_resize_locks`: the lock array only grows, by fresh migrated stripes that count nothing (`Rz.Grown`), and then
fits the new bucket count (`Rz.LocksFit`, `Rz.mrl_size`); rewriting every flag or keeping every count of a lock array
(`Rz.nUnmig_map_false`, `Rz.sumCnt_map`).
-/
namespace Cuckoo.Model
open Cuckoo
variable {κ ν : Type}

namespace Rz

theorem foldl_cnt_replicate (n : Nat) (b : Int) (m : Bool) :
    (Array.replicate n (⟨0, m⟩ : Lock)).foldl (fun s l => s + l.cnt) b = b := by
  rw [← Array.foldl_toList, Array.toList_replicate]
  exact foldl_cnt_of_zero _ (fun x hx => by rw [(List.mem_replicate.mp hx).2]) b

/-- `t'` is `t` with its lock array grown by fresh, migrated, zero-count stripes -/
structure Grown (t t' : Table κ ν) : Prop where
  cur : t'.cur = t.cur
  old : t'.old = t.old
  rem : t'.rem = t.rem
  rc : t'.rc = t.rc
  mlf : t'.mlf = t.mlf
  mhp : t'.mhp = t.mhp
  workers : t'.workers = t.workers
  sumCnt : t'.sumCnt = t.sumCnt
  allmig : AllMig t → AllMig t'
  size_le : t.locks.size ≤ t'.locks.size

theorem _root_.Cuckoo.Model.maybeResizeLocks_eq (c : Cfg κ) (t : Table κ ν) (n : Nat) :
    t.maybeResizeLocks c n =
      if t.locks.size < c.M ∧ t.locks.size < n then
        { t with locks := t.locks ++ Array.replicate (min c.M n - t.locks.size) ⟨0, true⟩,
                 oldGens := t.oldGens ++ [t.locks.size] }
      else t := rfl

theorem _root_.Cuckoo.Model.maybeResizeLocks_spec (c : Cfg κ) (t : Table κ ν) (n : Nat) :
    Grown t (t.maybeResizeLocks c n) := by
  rw [maybeResizeLocks_eq]
  split
  · refine ⟨rfl, rfl, rfl, rfl, rfl, rfl, rfl, ?_, ?_, ?_⟩
    · simp only [Table.sumCnt, Array.foldl_append, foldl_cnt_replicate]
    · intro ha i lk hlk
      simp only [Array.getElem?_append] at hlk
      split at hlk
      · exact ha i lk hlk
      · rw [Array.getElem?_replicate] at hlk
        split at hlk
        · cases hlk; rfl
        · cases hlk
    · simp
  · exact ⟨rfl, rfl, rfl, rfl, rfl, rfl, rfl, rfl, fun h => h, Nat.le_refl _⟩

theorem nUnmig_map_false (xs : Array Lock) :
    ((xs.map (fun l => ({ l with migrated := false } : Lock))).toList.filter (fun l => !l.migrated)).length = xs.size := by
  rw [List.filter_eq_self.mpr]
  · simp
  · intro a ha
    simp only [Array.toList_map, List.mem_map] at ha
    obtain ⟨x, _, rfl⟩ := ha
    rfl

theorem sumCnt_map {t t' : Table κ ν} (f : Lock → Lock) (hf : ∀ x, (f x).cnt = x.cnt) (h : t'.locks = t.locks.map f) :
    t'.sumCnt = t.sumCnt := by
  unfold Table.sumCnt
  rw [h, Array.foldl_map]
  simp only [hf]

/-- a lock array of `n` stripes fits `2 ^ hp` buckets: the clauses `locks_pow`, `locks_le`, `locks_ge` of `Inv` -/
structure LocksFit (c : Cfg κ) (hp n : Nat) : Prop where
  pow : ∃ j, n = 2 ^ j
  le : n ≤ c.M
  ge : min (2 ^ hp) c.M ≤ n

theorem _root_.Cuckoo.Model.Inv.locksFit {c : Cfg κ} {t : Table κ ν} (h : Inv c t) : LocksFit c t.hp t.locks.size :=
  ⟨h.locks_pow, h.locks_le, h.locks_ge⟩

theorem _root_.Cuckoo.Model.Inv.locks_full {c : Cfg κ} {t : Table κ ν} (h : Inv c t) (hge : c.M ≤ 2 ^ t.hp) :
    t.locks.size = c.M :=
  Nat.le_antisymm h.locks_le (Nat.le_trans (Nat.le_min.mpr ⟨hge, Nat.le_refl _⟩) h.locks_ge)

theorem _root_.Cuckoo.Model.Inv.locks_pos {c : Cfg κ} {t : Table κ ν} (h : Inv c t) : 0 < t.locks.size := by
  obtain ⟨j, hj⟩ := h.locks_pow
  rw [hj]; exact Nat.two_pow_pos j

theorem mrl_size (c : Cfg κ) (t : Table κ ν) (a : Nat) (hM : ∃ m, c.M = 2 ^ m) {b : Nat}
    (hf : LocksFit c b t.locks.size) : LocksFit c a (t.maybeResizeLocks c (2 ^ a)).locks.size := by
  rw [maybeResizeLocks_eq]
  split
  · rename_i hc
    have e : (t.locks ++ Array.replicate (min c.M (2 ^ a) - t.locks.size) (⟨0, true⟩ : Lock)).size
        = min c.M (2 ^ a) := by
      rw [Array.size_append, Array.size_replicate]
      exact Nat.add_sub_cancel' (Nat.le_min.mpr ⟨Nat.le_of_lt hc.1, Nat.le_of_lt hc.2⟩)
    dsimp only
    rw [e]
    obtain ⟨m, hm⟩ := hM
    exact ⟨⟨min m a, by rw [hm, Spec.min_two_pow]⟩, Nat.min_le_left _ _, Nat.le_of_eq (Nat.min_comm _ _)⟩
  · rename_i hc
    refine ⟨hf.pow, hf.le, ?_⟩
    rcases Nat.lt_or_ge t.locks.size c.M with h1 | h1
    · exact Nat.le_trans (Nat.min_le_left _ _) (Nat.le_of_not_lt fun h2 => hc ⟨h1, h2⟩)
    · exact Nat.le_trans (Nat.min_le_right _ _) h1

theorem mrl_noop (c : Cfg κ) (t : Table κ ν) (n : Nat) (h : c.M ≤ t.locks.size) :
    t.maybeResizeLocks c n = t := by
  rw [maybeResizeLocks_eq, if_neg]; omega

end Rz

end Cuckoo.Model
