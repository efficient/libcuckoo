import Cuckoo.Proofs.Migrate
import Cuckoo.Proofs.Resize.Locks
/-!
One doubling (`Rz.doubled_post`: the eager loop of `cuckoo_fast_double` by its write trace, `Rz.mv_spec`, or the lazy
hand-over of the current array, `Rz.double_lazy`) and one replacement of the current array (`Rz.replace_cur`: a fully
migrated table is invariant as soon as its current array is, `Inv.of_allMig`), each stated as what a resizing run
guarantees (`Post`: invariant, `Resized`, outcome); the fresh table (`Rz.Empty`).
-/
namespace Cuckoo.Model
open Cuckoo
variable {κ ν : Type}

/-- the errors an inserting / resizing step may end with -/
def ResizeErr (e : Err) : Prop :=
  e = .loadFactorTooLow ∨ e = .maxHpExceeded ∨ e = .badAlloc ∨ e = .fuel

theorem ResizeErr.badAlloc : ResizeErr .badAlloc := .inr (.inr (.inl rfl))

theorem ResizeErr.fuel : ResizeErr .fuel := .inr (.inr (.inr rfl))

theorem ResizeErr.ne_fnThrow {e : Err} (h : ResizeErr e) : e ≠ .fnThrow := by
  rintro rfl
  rcases h with h | h | h | h <;> cases h

/-- the resize counter never drops, and as long as it stays the hashpower stays: what lets a thread re-validate its
snapshot by the counter alone -/
structure RcGuard (t t' : Table κ ν) : Prop where
  rc : t.rc ≤ t'.rc
  rc_hp : t'.rc = t.rc → t'.hp = t.hp

theorem RcGuard.refl (t : Table κ ν) : RcGuard t t := ⟨Nat.le_refl _, fun _ => rfl⟩

theorem RcGuard.trans {t t' t'' : Table κ ν} (h : RcGuard t t') (h' : RcGuard t' t'') : RcGuard t t'' :=
  ⟨Nat.le_trans h.rc h'.rc, fun e => by
    have e' : t''.rc = t'.rc := Nat.le_antisymm (e ▸ h.rc) h'.rc
    rw [h'.rc_hp e', h.rc_hp (e'.symm.trans e)]⟩

theorem RcGuard.of_keeps {c : Cfg κ} {t t' : Table κ ν} (hk : Keeps c t t') : RcGuard t t' :=
  ⟨Nat.le_of_eq hk.rc.symm, fun _ => hk.hp⟩

/-- `t'` arises from `t` by steps of the resize machinery: like `Step`, except that the counter may rise, and then
guards the hashpower -/
structure Resized (c : Cfg κ) (t t' : Table κ ν) : Prop extends RcGuard t t' where
  inv : Inv c t'
  same : Same c t t'

theorem Resized.refl {c : Cfg κ} {t : Table κ ν} (h : Inv c t) : Resized c t t := ⟨.refl t, h, .refl c t⟩

theorem Resized.trans {c : Cfg κ} {t t' t'' : Table κ ν} (h : Resized c t t') (h' : Resized c t' t'') :
    Resized c t t'' :=
  ⟨h.toRcGuard.trans h'.toRcGuard, h'.inv, h.same.trans h'.same⟩

theorem Resized.of_step {c : Cfg κ} {t t' : Table κ ν} (h : Step c t t') : Resized c t t' :=
  ⟨.of_keeps h.keeps, h.inv, h.same⟩

/-- what a run started in `t` guarantees of the pair it returns; `Q` is what depends on the outcome -/
structure Post (c : Cfg κ) (locked : Bool) (t : Table κ ν) {α : Type} (Q : Res α → Table κ ν → Prop)
    (r : Table κ ν × Res α) : Prop extends Resized c t r.1 where
  allmig : locked = true → AllMig r.1
  res : Q r.2 r.1

section
variable {c : Cfg κ} {locked : Bool} {t t1 : Table κ ν} {α : Type} {Q Q' : Res α → Table κ ν → Prop} {a : Res α}
  {r : Table κ ν × Res α}

theorem Post.mono (h : Post c locked t Q r) (hq : ∀ a t', Q a t' → Q' a t') : Post c locked t Q' r :=
  ⟨h.toResized, h.allmig, hq _ _ h.res⟩

theorem Post.of_resized (z : Resized c t t1) (p : Post c locked t1 Q r) : Post c locked t Q r :=
  ⟨z.trans p.toResized, p.allmig, p.res⟩

theorem Post.of_step (s : Step c t t1) (hl : locked = true → AllMig t) (hq : Q a t1) : Post c locked t Q (t1, a) :=
  ⟨.of_step s, s.allmig hl, hq⟩

theorem Post.stay (h : Inv c t) (hl : locked = true → AllMig t) (hq : Q a t) : Post c locked t Q (t, a) :=
  ⟨.refl h, hl, hq⟩

theorem Post.migrated (h : Inv c t) (hq : (t.migrateAll c).hp = t.hp → Q a (t.migrateAll c)) :
    Post c locked t Q (t.migrateAll c, a) :=
  have m := migrateAll_spec c t h
  ⟨.of_step m.toStep, fun _ => m.allmig, hq m.keeps.hp⟩

end

namespace Rz

/-- the eager loop of `cuckoo_fast_double` when the buckets below `b` of `old` have been split into the fresh array
`cur`: both halves of the other buckets are still empty, `cur` holds exactly the elements of the buckets below `b`, each
in a candidate bucket, no key twice.  Only `b = 2 ^ old.hp`, the end of the loop, occurs (`mv_spec`). -/
structure MvInv (c : Cfg κ) (old cur : Store κ ν) (b : Nat) : Prop where
  hp : cur.hp = old.hp + 1
  size : cur.cells.size = 2 ^ cur.hp * c.S
  empty : ∀ b' s, (b ≤ b' ∧ b' < 2 ^ old.hp) ∨ b + 2 ^ old.hp ≤ b' → cur.get c.S b' s = none
  content : ∀ sl, (∃ b' s, cur.get c.S b' s = some sl) ↔ (∃ b' s, b' < b ∧ old.get c.S b' s = some sl)
  place : ∀ b' s sl, cur.get c.S b' s = some sl →
    sl.tag = c.tag sl.key ∧ (b' = c.i1 cur.hp sl.key ∨ b' = c.i2 cur.hp sl.key)
  uniq : StoreUniq c.S cur

/-- the eager loop of `cuckoo_fast_double`, by its write trace: every bucket of the old array has been split into the
fresh array -/
theorem mv_spec [DecidableEq κ] {c : Cfg κ} {old : Store κ ν} (ho : old.WF c) (hu : StoreUniq c.S old) :
    MvInv c old (fastDouble.mv c old (2 ^ old.hp) 0 (Store.mk' c.S (old.hp + 1))) (2 ^ old.hp) := by
  have hC : Constructs c.S (Store.mk' c.S (old.hp + 1)) (stripeWrites c old (old.hp + 1) 1 (2 ^ old.hp) 0) :=
    stripeWrites_constructs c old (Store.mk' c.S (old.hp + 1)) 1 _ 0 (Store.mk'_size _ _) rfl Nat.one_pos
      (fun i hi => by rw [Nat.zero_add, Nat.mul_one]; exact hi)
      (fun _ _ _ => ⟨Store.mk'_get _ _ _ _, Store.mk'_get _ _ _ _⟩)
  have src := stripeWrites_src c old 1 (2 ^ old.hp) 0 ho
  -- a cell holds `sl` after the loop exactly if the trace writes `sl` there
  have key : ∀ b s sl, (fastDouble.mv c old (2 ^ old.hp) 0 (Store.mk' c.S (old.hp + 1))).get c.S b s = some sl ↔
      (b, s, sl) ∈ stripeWrites c old (old.hp + 1) 1 (2 ^ old.hp) 0 := by
    intro b s sl
    rw [fastDouble_mv_eq_fold, Store.mk'_hp, fold_get hC, Store.mk'_get]
    exact ⟨fun h => h.resolve_right (fun e => by cases e), Or.inl⟩
  have hk := stripeWrites_keys c old (old.hp + 1) 1 (2 ^ old.hp) 0
    (fun i j s s' sl sl' _ _ h h' e => by
      rw [Nat.zero_add, Nat.mul_one] at h h'
      exact hu _ _ _ _ _ _ h h' e)
  refine ⟨by rw [fastDouble_mv_eq_fold, fold_hp]; rfl, by rw [fastDouble_mv_eq_fold, fold_size, fold_hp]; exact Store.mk'_size _ _,
    fun b' s hb' => ?_, fun sl => ⟨fun ⟨b', s, hg⟩ => ?_, fun ⟨b', s, hlt, hg⟩ => ?_⟩, fun b' s sl hg => ?_,
    fun b1 s1 b2 s2 sl sl' h1 h2 e => ?_⟩
  · cases hg : (fastDouble.mv c old (2 ^ old.hp) 0 (Store.mk' c.S (old.hp + 1))).get c.S b' s with
    | none => rfl
    | some sl =>
      have := hC.bucket _ ((key _ _ _).mp hg)
      rw [Store.mk'_hp, Nat.pow_succ] at this
      change b' < _ at this
      omega
  · obtain ⟨_, _, i, s', hi, hg'⟩ := src _ ((key _ _ _).mp hg)
    rw [Nat.zero_add, Nat.mul_one] at hg'
    exact ⟨i, s', hi, hg'⟩
  · obtain ⟨w, hw, e⟩ := stripeWrites_complete c old (old.hp + 1) 1 (2 ^ old.hp) 0 b' s sl hlt
      (by rw [Nat.zero_add, Nat.mul_one]; exact hg)
    exact ⟨w.1, w.2.1, (key _ _ _).mpr (e ▸ hw)⟩
  · obtain ⟨ht, hc, _⟩ := src _ ((key _ _ _).mp hg)
    rw [fastDouble_mv_eq_fold, fold_hp]
    exact ⟨ht, hc⟩
  · cases eq_of_pairwise_ne hk ((key _ _ _).mp h1) ((key _ _ _).mp h2) e
    exact ⟨rfl, rfl⟩

theorem inv_curUniq {c : Cfg κ} {t : Table κ ν} (h : Inv c t) : StoreUniq c.S t.cur := by
  intro b s b' s' sl sl' h1 h2 hk
  have := h.uniq (.cur b s) (.cur b' s') sl sl' h1 h2 hk
  cases this
  exact ⟨rfl, rfl⟩

theorem _root_.Cuckoo.Model.Inv.of_allMig {c : Cfg κ} {t : Table κ ν} (hS : 0 < c.S) (hM : ∃ m, c.M = 2 ^ m)
    (hwf : t.cur.WF c) (hu : StoreUniq c.S t.cur) (hf : LocksFit c t.hp t.locks.size) (ha : AllMig t) (hrem : t.rem = 0)
    (hlim : t.mhp = noMaxHp ∨ t.hp ≤ t.mhp) : Inv c t := by
  refine ⟨hS, hM, hwf, hf.pow, hf.le, hf.ge, by rw [hrem, ha.nUnmig], fun h => by omega,
    fun b s h => by rw [ha.unmigB] at h; exact Bool.noConfusion h, ?_, hlim⟩
  intro p p' sl sl' hp hp' hk
  cases p with
  | old b s => rw [ha.at_old] at hp; cases hp
  | cur b s =>
    cases p' with
    | old b s => rw [ha.at_old] at hp'; cases hp'
    | cur b' s' => obtain ⟨rfl, rfl⟩ := hu _ _ _ _ _ _ hp hp' hk; rfl

/-- the current array of a fully migrated table replaced by one that holds the same elements, the lock array grown to
match: `cuckoo_fast_double` below `M` buckets, and the end of `cuckoo_expand_simple` -/
theorem replace_cur {c : Cfg κ} {t1 t' : Table κ ν} (h1 : Inv c t1) (ha : AllMig t1)
    (hwf : t'.cur.WF c) (hu : StoreUniq c.S t'.cur)
    (hcont : ∀ sl, (∃ b s, t'.cur.get c.S b s = some sl) ↔ ∃ b s, t1.cur.get c.S b s = some sl)
    (hlim : t1.mhp = noMaxHp ∨ t'.hp ≤ t1.mhp)
    (hlocks : t'.locks = (t1.maybeResizeLocks c (2 ^ t'.hp)).locks) (hrem : t'.rem = 0)
    (hmlf : t'.mlf = t1.mlf) (hmhp : t'.mhp = t1.mhp) (hw : t'.workers = t1.workers) :
    Inv c t' ∧ Same c t1 t' ∧ AllMig t' := by
  have hg := maybeResizeLocks_spec c t1 (2 ^ t'.hp)
  have ha' : AllMig t' := fun i lk hlk => hg.allmig ha i lk (hlocks ▸ hlk)
  have hf := mrl_size c t1 t'.hp h1.M_pow h1.locksFit
  rw [← hlocks] at hf
  refine ⟨.of_allMig h1.S_pos h1.M_pow hwf hu hf ha' hrem (hmhp ▸ hlim),
    ⟨fun sl => ?_, ?_, hmlf, hmhp, hw⟩, ha'⟩
  · rw [ha'.live_iff_cur, ha.live_iff_cur, hcont]
  · exact (sumCnt_congr hlocks).trans hg.sumCnt

/-- the table of the lazy branch of `cuckoo_fast_double` (at least `M` buckets): the current array becomes the old array
as it is, a fresh empty array becomes current, every stripe is flagged un-migrated -/
def lazyT (c : Cfg κ) (t : Table κ ν) : Table κ ν :=
  { t with old := some t.cur, cur := Store.mk' c.S (t.hp + 1),
           locks := t.locks.map (fun l => { l with migrated := false }), rem := t.locks.size }

/-- every cell of the new old array is live, under its old coordinates: in `lazyT c t1`, and still after its counter is
bumped (hence a table `t'` given by the two fields that matter) -/
theorem lazy_at_old (c : Cfg κ) (t1 t' : Table κ ν) (h1 : Inv c t1) (hge : c.M ≤ 2 ^ t1.hp)
    (hold : t'.old = some t1.cur)
    (hlocks : t'.locks = t1.locks.map (fun l => ({ l with migrated := false } : Lock))) (b s : Nat) :
    t'.unmigB c b = true ∧ t'.at c (.old b s) = t1.cur.get c.S b s := by
  have hMpos : 0 < c.M := by obtain ⟨m, hm⟩ := h1.M_pow; rw [hm]; exact Nat.two_pow_pos m
  have hlt : c.lockInd b < t1.locks.size := by rw [h1.locks_full hge]; exact Spec.lockInd_lt _ _ hMpos
  have hu : t'.unmigB c b = true := by
    unfold Table.unmigB
    rw [hlocks, Array.getElem?_map, Array.getElem?_eq_getElem hlt]
    rfl
  exact ⟨hu, by simp only [Table.at, hold, hu, if_true]⟩

theorem double_lazy {c : Cfg κ} {t1 : Table κ ν} (h1 : Inv c t1) (ha : AllMig t1) (hge : c.M ≤ 2 ^ t1.hp)
    (hlim : t1.mhp = noMaxHp ∨ t1.hp + 1 ≤ t1.mhp) : Inv c (lazyT c t1) ∧ Same c t1 (lazyT c t1) := by
  have hsz : (lazyT c t1).locks.size = c.M := (Array.size_map ..).trans (h1.locks_full hge)
  -- every cell of `t1.cur` is a live cell of the old array under its old coordinates (`hat`), and the fresh current
  -- array has none (`hget`): uniqueness and the live view are those of `t1`, read at `.old` instead of `.cur`
  have hat : ∀ b s, (lazyT c t1).at c (.old b s) = t1.cur.get c.S b s := fun b s =>
    (lazy_at_old c t1 _ h1 hge rfl rfl b s).2
  have hget : ∀ b s, (lazyT c t1).at c (.cur b s) = none := fun b s => Store.mk'_get ..
  refine ⟨⟨h1.S_pos, h1.M_pow, Store.mk'_wf c _, hsz ▸ h1.M_pow, Nat.le_of_eq hsz, hsz ▸ Nat.min_le_right _ _,
    ?_, fun _ => ⟨t1.cur, rfl, h1.cur_wf, rfl, hge, hsz⟩, fun b s _ => hget b s, ?_, hlim⟩, ⟨?_, ?_, rfl, rfl, rfl⟩⟩
  · exact (nUnmig_map_false t1.locks).symm
  · intro p p' sl sl' hp hp' hk
    cases p with
    | cur b s => rw [hget] at hp; cases hp
    | old b s =>
      cases p' with
      | cur b s => rw [hget] at hp'; cases hp'
      | old b' s' =>
        rw [hat] at hp hp'
        obtain ⟨rfl, rfl⟩ := inv_curUniq h1 _ _ _ _ _ _ hp hp' hk
        rfl
  · intro sl
    rw [ha.live_iff_cur]
    constructor
    · rintro ⟨p, hp⟩
      cases p with
      | cur b s => rw [hget] at hp; cases hp
      | old b s => rw [hat] at hp; exact ⟨b, s, hp⟩
    · rintro ⟨b, s, h⟩
      exact ⟨.old b s, (hat b s).trans h⟩
  · exact sumCnt_map (fun l => { l with migrated := false }) (fun _ => rfl) rfl

theorem checkResize_some {c : Cfg κ} {t : Table κ ν} {auto : Bool} {n : Nat} {e : Err}
    (h : t.checkResize c auto n = some e) : ResizeErr e := by
  unfold Table.checkResize at h
  split at h
  · cases h; exact Or.inr (Or.inl rfl)
  · split at h
    · cases h; exact Or.inl rfl
    · cases h

theorem checkResize_none {c : Cfg κ} {t : Table κ ν} {auto : Bool} {n : Nat}
    (h : t.checkResize c auto n = none) : t.mhp = noMaxHp ∨ n ≤ t.mhp := by
  unfold Table.checkResize at h
  split at h
  · cases h
  · rename_i hc
    by_cases hm : t.mhp = noMaxHp
    · exact Or.inl hm
    · right; apply Nat.le_of_not_lt; intro hlt; exact hc ⟨hm, hlt⟩

def bumpRc (t : Table κ ν) : Table κ ν := { t with rc := t.rc + 1 }

/-- a resize ends by bumping the counter of a table `t1` reached without touching it; neither the invariant nor the
live view mentions the counter -/
theorem _root_.Cuckoo.Model.Post.bump {c : Cfg κ} {locked : Bool} {t t1 : Table κ ν} {α : Type}
    {Q : Res α → Table κ ν → Prop} {a : Res α} (h : Inv c t1) (hs : Same c t t1) (hrc : t1.rc = t.rc)
    (hl : locked = true → AllMig t1) (hq : Q a (bumpRc t1)) : Post c locked t Q (bumpRc t1, a) :=
  have e : (bumpRc t1).rc = t.rc + 1 := congrArg (· + 1) hrc
  ⟨⟨⟨e ▸ Nat.le_succ _, fun e' => absurd (e.symm.trans e') (Nat.succ_ne_self _)⟩, { h with }, { hs with }⟩, hl, hq⟩

def doubleCore [DecidableEq κ] (c : Cfg κ) (locked : Bool) (t1 : Table κ ν) (newHp : Nat) : Table κ ν :=
  let t := t1.maybeResizeLocks c (2 ^ newHp)
  let old := t.cur
  let t := { t with old := some old, cur := Store.mk' c.S newHp }
  if 2 ^ old.hp < c.M then
    ({ t with cur := fastDouble.mv c old (2 ^ old.hp) 0 t.cur }).setRem 0
  else
    let t := { t with locks := t.locks.map (fun l => { l with migrated := false }), rem := t.locks.size }
    if locked then t.migrateAll c else t

/-- the table of the eager branch of `cuckoo_fast_double` (fewer than `M` buckets): every bucket is split at once into the
fresh array and the old array is released -/
def eagerT [DecidableEq κ] (c : Cfg κ) (t : Table κ ν) : Table κ ν :=
  { t.maybeResizeLocks c (2 ^ (t.hp + 1)) with
      cur := fastDouble.mv c t.cur (2 ^ t.hp) 0 (Store.mk' c.S (t.hp + 1)), old := none, rem := 0 }

theorem doubleCore_eager_eq [DecidableEq κ] (c : Cfg κ) (locked : Bool) (t1 : Table κ ν) (hlt : 2 ^ t1.hp < c.M) :
    doubleCore c locked t1 (t1.hp + 1) = eagerT c t1 := by
  have hc := (maybeResizeLocks_spec c t1 (2 ^ (t1.hp + 1))).cur
  unfold doubleCore
  dsimp only
  rw [if_pos (by rw [hc]; exact hlt), hc, setRem_zero]
  rfl

/-- the lazy branch (at least `M` buckets); a locked table migrates every stripe at once -/
theorem doubleCore_lazy_eq [DecidableEq κ] (c : Cfg κ) (locked : Bool) (t1 : Table κ ν) (h1 : Inv c t1)
    (hge : c.M ≤ 2 ^ t1.hp) :
    doubleCore c locked t1 (t1.hp + 1) = if locked then (lazyT c t1).migrateAll c else lazyT c t1 := by
  unfold doubleCore
  dsimp only
  rw [mrl_noop c t1 _ (Nat.le_of_eq (h1.locks_full hge).symm), if_neg (Nat.not_lt.mpr hge : ¬ 2 ^ t1.cur.hp < c.M)]
  rfl

theorem doubled_post [DecidableEq κ] (c : Cfg κ) (locked : Bool) {t1 : Table κ ν} {n : Nat} (h1 : Inv c t1)
    (ha : AllMig t1) (hn : n = t1.hp + 1) (hlim : t1.mhp = noMaxHp ∨ t1.hp + 1 ≤ t1.mhp) :
    Post c locked t1 (fun _ t' => t'.hp = n) (bumpRc (doubleCore c locked t1 n), Res.ok true) := by
  subst hn
  by_cases hlt : 2 ^ t1.hp < c.M
  · have mvi := mv_spec h1.cur_wf (inv_curUniq h1)
    have hg := maybeResizeLocks_spec c t1 (2 ^ (t1.hp + 1))
    rw [doubleCore_eager_eq c locked t1 hlt]
    obtain ⟨a1, a2, a3⟩ := replace_cur h1 ha (t' := eagerT c t1) ⟨mvi.size, mvi.place⟩ mvi.uniq
      (fun sl => (mvi.content sl).trans
        ⟨fun ⟨b, s, _, h⟩ => ⟨b, s, h⟩, fun ⟨b, s, h⟩ => ⟨b, s, Store.get_some_bucket_lt h1.cur_wf.size h, h⟩⟩)
      (hlim.imp_right (Nat.le_trans (Nat.le_of_eq mvi.hp)))
      (congrArg (fun n => (t1.maybeResizeLocks c (2 ^ n)).locks) mvi.hp.symm) rfl hg.mlf hg.mhp hg.workers
    exact .bump a1 a2 hg.rc (fun _ => a3) mvi.hp
  · have hge : c.M ≤ 2 ^ t1.hp := Nat.le_of_not_lt hlt
    rw [doubleCore_lazy_eq c locked t1 h1 hge]
    obtain ⟨l1, l2⟩ := double_lazy h1 ha hge hlim
    split
    · have m := migrateAll_spec c _ l1
      exact .bump m.inv (l2.trans m.same) m.keeps.rc (fun _ => m.allmig) m.keeps.hp
    · rename_i hl
      exact .bump l1 l2 rfl (fun h => absurd h hl) rfl

structure Empty (c : Cfg κ) (t : Table κ ν) : Prop where
  inv : Inv c t
  allmig : AllMig t
  no_live : ∀ sl, ¬ t.Live c sl
  sumCnt : t.sumCnt = 0

theorem Empty.rel {c : Cfg κ} {t : Table κ ν} (h : Empty c t) : Rel c t [] :=
  ⟨fun _ _ => ⟨nofun, fun ⟨_, hl⟩ => absurd hl (h.no_live _)⟩, List.nodup_nil, by rw [h.sumCnt]; rfl⟩

theorem Empty.of_fresh {c : Cfg κ} {t : Table κ ν} {hp : Nat} (hS : 0 < c.S) (hM : ∃ m, c.M = 2 ^ m)
    (hcur : t.cur = Store.mk' c.S hp) (hlk : ∀ lk ∈ t.locks, lk = ⟨0, true⟩) (hf : LocksFit c t.hp t.locks.size)
    (hrem : t.rem = 0) (hlim : t.mhp = noMaxHp ∨ t.hp ≤ t.mhp) : Empty c t := by
  have hget : ∀ b s, t.cur.get c.S b s = none := fun b s => by rw [hcur]; exact Store.mk'_get ..
  have ha : AllMig t := fun i lk hi => by rw [hlk lk (Array.mem_of_getElem? hi)]
  refine ⟨.of_allMig hS hM (by rw [hcur]; exact Store.mk'_wf c _) (fun b s _ _ sl _ h => by rw [hget] at h; cases h)
    hf ha hrem hlim, ha, fun sl hl => ?_, ?_⟩
  · obtain ⟨b, s, h⟩ := (ha.live_iff_cur sl).mp hl
    rw [hget] at h; cases h
  · unfold Table.sumCnt
    rw [← Array.foldl_toList]
    exact foldl_cnt_of_zero _ (fun x hx => by rw [hlk x (Array.mem_toList_iff.mp hx)]) 0

theorem init_spec (c : Cfg κ) (n w : Nat) (f : Float) (mh : Nat) (hS : 0 < c.S) (hM : ∃ m, c.M = 2 ^ m)
    (hlim : mh = noMaxHp ∨ Spec.reserveCalc c.S n ≤ mh) :
    Empty c ({ (Table.init c n : Table κ ν) with workers := w, mlf := f, mhp := mh }) := by
  obtain ⟨m, hm⟩ := hM
  refine .of_fresh hS ⟨m, hm⟩ rfl (fun lk h => (Array.mem_replicate.mp h).2) ⟨⟨min (Spec.reserveCalc c.S n) m, ?_⟩, ?_, ?_⟩
    rfl hlim
  · simp only [Table.init, Array.size_replicate, hm, Spec.min_two_pow]
  · simp only [Table.init, Array.size_replicate]; exact Nat.min_le_right _ _
  · simp only [Table.init, Array.size_replicate, Table.hp, Store.mk'_hp]; exact Nat.le_refl _

end Rz

end Cuckoo.Model
