import Cuckoo.Proofs.Footprint.Sections
/-!
The footprint of `clear` (the one whole-table section with a stripe footprint), and the commutation diamond: two steps
on disjoint stripes, each replayed after the other as the same step, end in equal tables.
-/
namespace Cuckoo.Model
open Cuckoo Cuckoo.Model.Conc
variable {κ ν : Type}

theorem ww_clear (c : Cfg κ) (t : Table κ ν) (h : Inv c t) :
    WritesWithin c (List.range t.locks.size) t (t.clear c) := by
  refine .of_scal { hp := rfl, csize := ?_, nlocks := Array.size_map .., rc := rfl, gens := rfl, mlf := rfl, mhp := rfl, workers := rfl
                    old := .inr ⟨rfl, rfl⟩, rem := Nat.zero_le _ } (fun b s hb => ?_) (fun l hl => ?_)
  · show (Store.mk' c.S t.hp : Store κ ν).cells.size = _
    rw [Store.mk'_size, h.cur_wf.size]
    rfl
  · show (Store.mk' c.S t.hp : Store κ ν).get c.S b s = _
    rw [Store.mk'_get]
    cases hg : t.cur.get c.S b s with
    | none => rfl
    | some sl =>
      exfalso
      apply hb
      rw [List.mem_range]
      exact lockInd_lt_size h (Store.get_some_bucket_lt h.cur_wf.size hg)
  · have hge : t.locks.size ≤ l := by
      rw [List.mem_range] at hl; omega
    show (t.locks.map _)[l]? = _
    rw [Array.getElem?_map, Array.getElem?_eq_none hge]
    rfl

/-- the diamond at one observation (a cell, a lock) guarded by stripe `l`: `x` in `t`, `x1` / `x2` after the step on
`L1` / `L2`, `x12` / `x21` after both.  The step that does not hold `l` leaves it; the step replayed second reproduces
on its own stripes what it did first -/
theorem diamond_at {α : Type} {L1 L2 : List Nat} {l : Nat} (hd : l ∈ L1 → l ∉ L2) {x x1 x2 x12 x21 : α}
    (w1 : l ∉ L1 → x1 = x) (w2 : l ∉ L2 → x2 = x) (w12 : l ∉ L2 → x12 = x1) (w21 : l ∉ L1 → x21 = x2)
    (tg : l ∈ L2 → x12 = x2) (tf : l ∈ L1 → x21 = x1) : x12 = x21 := by
  by_cases m1 : l ∈ L1
  · rw [w12 (hd m1), tf m1]
  · by_cases m2 : l ∈ L2
    · rw [tg m2, w21 m1]
    · rw [w12 m2, w1 m1, w21 m1, w2 m2]

/-- two steps `t → t1` (within `L1`) and `t → t2` (within `L2`), each replayed after the other as the same step
(`Transp`), close the diamond -/
theorem commute_core (c : Cfg κ) (hS : 0 < c.S) {L1 L2 : List Nat} {t t1 t2 t12 t21 : Table κ ν}
    (hd : ∀ l, l ∈ L1 → l ∉ L2)
    (w1 : WritesWithin c L1 t t1) (w2 : WritesWithin c L2 t t2)
    (w12 : WritesWithin c L2 t1 t12) (w21 : WritesWithin c L1 t2 t21)
    (tg : Transp c L2 t t1 t2 t12) (tf : Transp c L1 t t2 t1 t21) : t12 = t21 := by
  have hrem : t12.rem = t21.rem := by
    have := tg.rem
    have := tf.rem
    omega
  have s12 := w1.scal.trans w12.scal
  have s21 := w2.scal.trans w21.scal
  apply Table.eq_of_parts c hS
  · exact fun b s => diamond_at (hd _) (w1.cells b s) (w2.cells b s) (w12.cells b s) (w21.cells b s)
      (tg.agree.cells b s) (tf.agree.cells b s)
  · exact s12.csize.trans s21.csize.symm
  · exact s12.hp.trans s21.hp.symm
  · exact fun l => diamond_at (hd l) (w1.locks l) (w2.locks l) (w12.locks l) (w21.locks l)
      (tg.agree.locks l) (tf.agree.locks l)
  · -- both ends obey the release rule from `t`, and they have the same `rem`
    have a : OldRule t t12 := tf.oldT.trans tg.oldU tf.remT tg.remU
    have b : OldRule t t21 := tg.oldT.trans tf.oldU tg.remT tf.remU
    unfold OldRule at a b
    rw [a, b, hrem]
  · exact s12.gens.trans s21.gens.symm
  · exact hrem
  · exact s12.rc.trans s21.rc.symm
  · exact s12.mlf.trans s21.mlf.symm
  · exact s12.mhp.trans s21.mhp.symm
  · exact s12.workers.trans s21.workers.symm

theorem disjoint_singletons {i j : Nat} (hij : i ≠ j) : ∀ l, l ∈ [i] → l ∉ [j] :=
  fun _ hl hl2 => hij ((List.mem_singleton.mp hl).symm.trans (List.mem_singleton.mp hl2))

/-- not lazy, `rehash_lock(l)` is the same step from two tables that agree on `L ∋ l` and have the same old array; it
touches neither `rem` nor the old array -/
theorem rehashLock_false_transp (c : Cfg κ) (L : List Nat) (t u : Table κ ν) (l : Nat) (hl : l ∈ L)
    (ha : AgreeL c L t u) (hold : u.old = t.old) :
    Transp c L t u (t.rehashLock c l false) (u.rehashLock c l false) := by
  have hlk := ha.locks l hl
  have keep : ∀ (x : Table κ ν) (o : Store κ ν), x.old = some o → OldRule x (migLock c x l o false) := fun x o ho => by
    show some o = if 0 < x.rem ∧ x.rem = 0 then none else x.old
    rw [if_neg (fun h => by omega), ho]
  rcases rehashLock_cases c t l false with ⟨et, st⟩ | ⟨lk, o, hlt, hmig, hot, et⟩
  · rw [et, rehashLock_skip c u l false]
    · exact Transp.refl ha
    · intro lk hk
      rw [hlk] at hk
      exact (st lk hk).imp id (fun h => hold.trans h)
  · have hou : u.old = some o := hold.trans hot
    rw [et, rehashLock_pending c u l lk o false (hlk.trans hlt) hmig hou]
    exact ⟨agree_migLock c L t u l o false ha,
      rfl, Nat.le_refl _, Nat.le_refl _, keep t o hot, keep u o hou⟩

theorem rehashLock_false_old (c : Cfg κ) (t : Table κ ν) (l : Nat) : (t.rehashLock c l false).old = t.old := by
  rcases rehashLock_cases c t l false with ⟨e, _⟩ | ⟨lk, o, _, _, hold, e⟩ <;> rw [e]
  exact hold.symm

theorem rehashLock_false_comm (c : Cfg κ) (t : Table κ ν) (hw : WInv c t) (i j : Nat) (hij : i ≠ j) :
    (t.rehashLock c i false).rehashLock c j false = (t.rehashLock c j false).rehashLock c i false := by
  obtain ⟨m, hM⟩ := hw.M_pow
  have mi : i ∈ [i] := List.mem_singleton.mpr rfl
  have mj : j ∈ [j] := List.mem_singleton.mpr rfl
  have wi := (rehashLock_migr c t i false hw (nomatch ·)).winv
  have wj := (rehashLock_migr c t j false hw (nomatch ·)).winv
  have w1 := ww_rehashLock_of c t m i false hM (hw.stable i)
  have w2 := ww_rehashLock_of c t m j false hM (hw.stable j)
  exact commute_core c hw.S_pos (disjoint_singletons hij) w1 w2 (ww_rehashLock_of c _ m j false hM (wi.stable j))
    (ww_rehashLock_of c _ m i false hM (wj.stable i))
    (rehashLock_false_transp c [j] t _ j mj (AgreeOn.of_writes w1 (disjoint_singletons hij.symm)).loc
      (rehashLock_false_old c t i))
    (rehashLock_false_transp c [i] t _ i mi (AgreeOn.of_writes w2 (disjoint_singletons hij)).loc
      (rehashLock_false_old c t j))

theorem foldl_perm_of_comm {σ : Type} (f : σ → Nat → σ) (H : σ → Prop) (hH : ∀ t i, H t → H (f t i))
    (hc : ∀ t i j, H t → f (f t i) j = f (f t j) i) {l1 l2 : List Nat} (hp : l1.Perm l2) :
    ∀ t, H t → l1.foldl f t = l2.foldl f t := by
  induction hp with
  | nil => intro t _; rfl
  | cons x _ ih => intro t ht; exact ih (f t x) (hH t x ht)
  | swap x y l => intro t ht; simp only [List.foldl_cons]; rw [hc t y x ht]
  | trans _ _ ih1 ih2 => intro t ht; exact (ih1 t ht).trans (ih2 t ht)

theorem foldl_rehashLock_perm (c : Cfg κ) (t : Table κ ν) (hw : WInv c t) {l1 l2 : List Nat} (hp : l1.Perm l2) :
    l1.foldl (fun t l => t.rehashLock c l false) t = l2.foldl (fun t l => t.rehashLock c l false) t :=
  foldl_perm_of_comm (fun (t : Table κ ν) l => t.rehashLock c l false) (WInv c)
    (fun t i h => (rehashLock_migr c t i false h (nomatch ·)).winv)
    (fun t i j h => by
      by_cases e : i = j
      · subst e; rfl
      · exact rehashLock_false_comm c t h i j e) hp t hw

end Cuckoo.Model
