import Cuckoo.Proofs.Footprint.Migrate
import Cuckoo.Proofs.Sections
/-!
Footprints of the sections of `Model/Conc.lean`.  Each is `lock_two/three` on buckets it computes from its inputs,
followed by reads and writes in those buckets at slots `< S`: the same `L`-local step from any two tables that agree on
`L` (`Par`), with the same response.
-/
namespace Cuckoo.Model
open Cuckoo Cuckoo.Model.Conc
variable {κ ν : Type}

theorem scanForInsert_go_congr [DecidableEq κ] (c : Cfg κ) (st st' : Store κ ν) (b : Nat) (k : κ) (tag : Nat)
    (h : ∀ s, st'.get c.S b s = st.get c.S b s) :
    ∀ fuel s free, scanForInsert.go c st' b k tag s fuel free = scanForInsert.go c st b k tag s fuel free := by
  intro fuel
  induction fuel with
  | zero => intro s free; unfold scanForInsert.go; rfl
  | succ n ih =>
    intro s free
    rw [scanForInsert.go, scanForInsert.go, h s]
    cases st.get c.S b s with
    | none => exact ih _ _
    | some sl => simp only; rw [ih]

theorem scanForInsert_congr [DecidableEq κ] (c : Cfg κ) (st st' : Store κ ν) (b : Nat) (k : κ)
    (h : ∀ s, st'.get c.S b s = st.get c.S b s) : scanForInsert c st' b k = scanForInsert c st b k :=
  scanForInsert_go_congr c st st' b k _ h _ _ _

/-- `try_read_from_bucket` is the duplicate check of `try_find_insert_bucket` (`findGo_eq_scanGo`) -/
theorem findInBucket_congr [DecidableEq κ] (c : Cfg κ) (st st' : Store κ ν) (b : Nat) (k : κ)
    (h : ∀ s, st'.get c.S b s = st.get c.S b s) : findInBucket c st' b k = findInBucket c st b k := by
  unfold findInBucket
  rw [findGo_eq_scanGo c st' b k _ 0 c.S none, findGo_eq_scanGo c st b k _ 0 c.S none,
    scanForInsert_go_congr c st st' b k _ h]

theorem cuckooFind_congr [DecidableEq κ] (c : Cfg κ) (st st' : Store κ ν) (i1 i2 : Nat) (k : κ)
    (h1 : ∀ s, st'.get c.S i1 s = st.get c.S i1 s) (h2 : ∀ s, st'.get c.S i2 s = st.get c.S i2 s) :
    cuckooFind c st' i1 i2 k = cuckooFind c st i1 i2 k := by
  unfold cuckooFind
  rw [findInBucket_congr c st st' i1 k h1, findInBucket_congr c st st' i2 k h2]

theorem tryInsert_congr [DecidableEq κ] (c : Cfg κ) (st st' : Store κ ν) (i1 i2 : Nat) (k : κ)
    (h1 : ∀ s, st'.get c.S i1 s = st.get c.S i1 s) (h2 : ∀ s, st'.get c.S i2 s = st.get c.S i2 s) :
    tryInsert c st' i1 i2 k = tryInsert c st i1 i2 k := by
  unfold tryInsert
  rw [scanForInsert_congr c st st' i1 k h1, scanForInsert_congr c st st' i2 k h2]

theorem recheckPos_congr [DecidableEq κ] (c : Cfg κ) (st st' : Store κ ν) (hpS : Nat) (k : κ) (b s : Nat)
    (h1 : ∀ s, st'.get c.S (c.i1 hpS k) s = st.get c.S (c.i1 hpS k) s)
    (h2 : ∀ s, st'.get c.S (c.i2 hpS k) s = st.get c.S (c.i2 hpS k) s) :
    recheckPos c st' hpS k b s = recheckPos c st hpS k b s := by
  unfold recheckPos
  rw [cuckooFind_congr c st st' _ _ k h1 h2]

theorem valid_congr {c : Cfg κ} {L : List Nat} {t u : Table κ ν} (h : AgreeL c L t u) (hpS rcS : Nat) :
    valid u hpS rcS = valid t hpS rcS := by
  unfold valid
  rw [h.rc, h.hp]

theorem par_applyFn (c : Cfg κ) (L : List Nat) (t u : Table κ ν) (b s : Nat) (ctx : Option Ctx) (me : Bool)
    (fn : ν → FnOut ν) (okRes : Bool) (hb : c.lockInd b ∈ L) (h : AgreeL c L t u) :
    (applyFn c u b s ctx me fn okRes).2 = (applyFn c t b s ctx me fn okRes).2 ∧
    Par c L t u (applyFn c t b s ctx me fn okRes).1 (applyFn c u b s ctx me fn okRes).1 := by
  unfold applyFn
  rw [h.cells b s hb]
  cases hg : t.cur.get c.S b s with
  | none => exact ⟨rfl, .refl h⟩
  | some sl =>
    have a := fun v' => par_setVal c L t u b s v' hb h
    simp only
    cases fn sl.val with
    | throw v' => exact ⟨rfl, a v'⟩
    | ret v' er =>
      simp only
      by_cases e : (me && er) = true
      · rw [if_pos e, if_pos e]
        exact ⟨trivial, (a v').trans (par_delFrom c L _ _ b s (Store.get_some_lt hg).1 hb (a v').agree)⟩
      · rw [if_neg e, if_neg e]
        exact ⟨trivial, a v'⟩

theorem par_finishInsert [DecidableEq κ] (c : Cfg κ) (L : List Nat) (t u : Table κ ν) (k : κ) (v : ν)
    (ca me : Bool) (fn : Ctx → ν → FnOut ν) (p : InsPos) (hb : c.lockInd p.bkt ∈ L)
    (hs : ∀ b s, p = .free b s → s < c.S) (h : AgreeL c L t u) :
    (finishInsert c u k v ca me fn p).2 = (finishInsert c t k v ca me fn p).2 ∧
    Par c L t u (finishInsert c t k v ca me fn p).1 (finishInsert c u k v ca me fn p).1 := by
  cases p with
  | free b s =>
    have a := par_addTo c L t u b s ⟨c.tag k, k, v⟩ (hs b s rfl) hb h
    cases ca with
    | false => rw [finishInsert_free_false, finishInsert_free_false]; exact ⟨rfl, a⟩
    | true =>
      rw [finishInsert_free_true, finishInsert_free_true]
      obtain ⟨r, a2⟩ := par_applyFn c L _ _ b s (some .newlyInserted) me (fn .newlyInserted) true hb a.agree
      exact ⟨r, a.trans a2⟩
  | dup b s => rw [finishInsert_dup, finishInsert_dup]; exact par_applyFn c L t u b s _ me _ false hb h

variable [DecidableEq κ]

theorem par_lookupSec (c : Cfg κ) (ce : Bool) (k : κ) (fn : ν → FnOut ν) (t u : Table κ ν) (ht : Inv c t)
    (hu : Inv c u) (ha : AgreeOn c [c.lockInd (c.i1 t.hp k), c.lockInd (c.i2 t.hp k)] t u) :
    (lookupSec c ce k fn u).2 = (lookupSec c ce k fn t).2 ∧
    Par c [c.lockInd (c.i1 t.hp k), c.lockInd (c.i2 t.hp k)] t u (lookupSec c ce k fn t).1 (lookupSec c ce k fn u).1 := by
  have h1 : c.lockInd (c.i1 t.hp k) ∈ [c.lockInd (c.i1 t.hp k), c.lockInd (c.i2 t.hp k)] := by simp
  have h2 : c.lockInd (c.i2 t.hp k) ∈ [c.lockInd (c.i1 t.hp k), c.lockInd (c.i2 t.hp k)] := by simp
  have a := par_lockTwo c _ t u (c.i1 t.hp k) (c.i2 t.hp k) h1 h2 ht hu ha
  rw [lookupSec_eq, lookupSec_eq, ha.loc.hp]
  generalize t.lockTwo c (c.i1 t.hp k) (c.i2 t.hp k) = t1 at *
  generalize u.lockTwo c (c.i1 t.hp k) (c.i2 t.hp k) = u1 at *
  rw [cuckooFind_congr c t1.cur u1.cur _ _ k (fun s => a.agree.cells _ s h1) (fun s => a.agree.cells _ s h2)]
  cases hf : cuckooFind c t1.cur (c.i1 t.hp k) (c.i2 t.hp k) k with
  | none => exact ⟨rfl, a⟩
  | some p =>
    obtain ⟨b, s⟩ := p
    obtain ⟨r, a2⟩ := par_applyFn c _ t1 u1 b s none ce fn true ((cuckooFind_some hf).1.elim (· ▸ h1) (· ▸ h2)) a.agree
    exact ⟨congrArg some r, a.trans a2⟩

theorem par_insertTrySec (c : Cfg κ) (k : κ) (v : ν) (ca me : Bool) (fn : Ctx → ν → FnOut ν) (t u : Table κ ν)
    (ht : Inv c t) (hu : Inv c u) (ha : AgreeOn c [c.lockInd (c.i1 t.hp k), c.lockInd (c.i2 t.hp k)] t u) :
    (insertTrySec c k v ca me fn u).2 = (insertTrySec c k v ca me fn t).2 ∧
    Par c [c.lockInd (c.i1 t.hp k), c.lockInd (c.i2 t.hp k)] t u (insertTrySec c k v ca me fn t).1
      (insertTrySec c k v ca me fn u).1 := by
  have h1 : c.lockInd (c.i1 t.hp k) ∈ [c.lockInd (c.i1 t.hp k), c.lockInd (c.i2 t.hp k)] := by simp
  have h2 : c.lockInd (c.i2 t.hp k) ∈ [c.lockInd (c.i1 t.hp k), c.lockInd (c.i2 t.hp k)] := by simp
  have a := par_lockTwo c _ t u (c.i1 t.hp k) (c.i2 t.hp k) h1 h2 ht hu ha
  obtain ⟨s, m1, m2⟩ := lockTwo_step c t (c.i1 t.hp k) (c.i2 t.hp k) ht
  rw [insertTrySec_eq, insertTrySec_eq, ha.loc.hp]
  generalize t.lockTwo c (c.i1 t.hp k) (c.i2 t.hp k) = t1 at *
  generalize u.lockTwo c (c.i1 t.hp k) (c.i2 t.hp k) = u1 at *
  have ts := tryInsert_spec c t1 k s.inv s.keeps.hp m1 m2
  rw [tryInsert_congr c t1.cur u1.cur _ _ k (fun s => a.agree.cells _ s h1) (fun s => a.agree.cells _ s h2)]
  cases htry : tryInsert c t1.cur (c.i1 t.hp k) (c.i2 t.hp k) k with
  | needCuckoo => exact ⟨rfl, a⟩
  | pos p =>
    rw [htry] at ts
    obtain ⟨hb, hs⟩ := ts.pos
    rw [s.keeps.hp] at hb
    obtain ⟨r, a2⟩ := par_finishInsert c _ t1 u1 k v ca me fn p (hb.elim (· ▸ h1) (· ▸ h2)) hs a.agree
    exact ⟨congrArg some r, a.trans a2⟩

omit [DecidableEq κ] in
theorem par_lastMove (c : Cfg κ) (L : List Nat) (hpS : Nat) (t u : Table κ ν) (fr : PathRec) (to : Option PathRec)
    (hfb : c.lockInd fr.bucket ∈ L) (htb : ∀ p, to = some p → c.lockInd p.bucket ∈ L) (h : AgreeL c L t u) :
    (lastMove c hpS t fr to = none ∧ lastMove c hpS u fr to = none) ∨
    ∃ t2 u2, lastMove c hpS t fr to = some t2 ∧ lastMove c hpS u fr to = some u2 ∧ Par c L t u t2 u2 := by
  cases to with
  | none =>
    have hocc : u.cur.occ c.S fr.bucket fr.slot = t.cur.occ c.S fr.bucket fr.slot := by
      unfold Store.occ; rw [h.cells _ _ hfb]
    simp only [lastMove, hocc]
    by_cases ho : t.cur.occ c.S fr.bucket fr.slot = true
    · rw [if_pos ho, if_pos ho]; exact Or.inl ⟨rfl, rfl⟩
    · rw [if_neg ho, if_neg ho]; exact Or.inr ⟨t, u, rfl, rfl, .refl h⟩
  | some to =>
    simp only [lastMove]
    by_cases hg : (to.bucket == Spec.altIndex hpS (Spec.partialKey fr.hash) fr.bucket && decide (to.slot < c.S)) = true
    · rw [if_pos hg, if_pos hg]
      simp only [Bool.and_eq_true, beq_iff_eq, decide_eq_true_eq] at hg
      exact par_hop c L t u fr to hg.2 hfb (htb to rfl) h
    · rw [if_neg hg, if_neg hg]; exact Or.inl ⟨rfl, rfl⟩

omit [DecidableEq κ] in
theorem par_hopSec (c : Cfg κ) (hpS rcS : Nat) (fr to : PathRec) (t u : Table κ ν) (ht : Inv c t) (hu : Inv c u)
    (ha : AgreeOn c [c.lockInd fr.bucket, c.lockInd to.bucket] t u) :
    (hopSec c hpS rcS fr to u).2 = (hopSec c hpS rcS fr to t).2 ∧
    Par c [c.lockInd fr.bucket, c.lockInd to.bucket] t u (hopSec c hpS rcS fr to t).1 (hopSec c hpS rcS fr to u).1 := by
  have a := par_lockTwo c [c.lockInd fr.bucket, c.lockInd to.bucket] t u fr.bucket to.bucket (by simp) (by simp)
    ht hu ha
  rw [hopSec_eq, hopSec_eq, valid_congr a.agree hpS rcS]
  refine ⟨rfl, ?_⟩
  dsimp only
  generalize t.lockTwo c fr.bucket to.bucket = t1 at *
  generalize u.lockTwo c fr.bucket to.bucket = u1 at *
  split
  · rcases par_lastMove c _ hpS t1 u1 fr (some to) (by simp) (fun p e => by cases e; simp) a.agree with
      ⟨e1, e2⟩ | ⟨t2, u2, e1, e2, a2⟩ <;> rw [e1, e2]
    · exact a
    · exact a.trans a2
  · exact a

theorem par_insertLastSec (c : Cfg κ) (hpS rcS : Nat) (k : κ) (v : ν) (ca me : Bool) (fn : Ctx → ν → FnOut ν)
    (fr : PathRec) (to : Option PathRec) (t u : Table κ ν) (ht : Inv c t) (hu : Inv c u)
    (ha : AgreeOn c (lastStripes c hpS k to) t u) :
    (insertLastSec c hpS rcS k v ca me fn fr to u).2 = (insertLastSec c hpS rcS k v ca me fn fr to t).2 ∧
    Par c (lastStripes c hpS k to) t u (insertLastSec c hpS rcS k v ca me fn fr to t).1
      (insertLastSec c hpS rcS k v ca me fn fr to u).1 := by
  have hL : lastStripes c hpS k to = (lastBuckets c hpS k to).map c.lockInd := by cases to <;> rfl
  obtain ⟨m1, m2, m3⟩ := lastBuckets_mem c hpS k to
  rw [hL] at ha ⊢
  have a := par_lockSec c _ (lastBuckets c hpS k to) t u (fun _ => List.mem_map_of_mem) ht hu ha
  rw [insertLastSec_eq, insertLastSec_eq, valid_congr a.agree hpS rcS]
  generalize (lockSec (ν := ν) c (lastBuckets c hpS k to) t).1 = t1 at *
  generalize (lockSec (ν := ν) c (lastBuckets c hpS k to) u).1 = u1 at *
  split
  · exact ⟨rfl, a⟩
  · rename_i hg
    obtain ⟨_, hb, hs⟩ := lastGuard_iff.mp hg
    rcases par_lastMove c _ hpS t1 u1 fr to (List.mem_map_of_mem (hb.elim (· ▸ m1) (· ▸ m2)))
        (fun p e => List.mem_map_of_mem (m3 p e)) a.agree with ⟨e1, e2⟩ | ⟨t2, u2, e1, e2, a2⟩
    · rw [e1, e2]; exact ⟨rfl, a⟩
    · rw [e1, e2]
      dsimp only
      rw [recheckPos_congr c t2.cur u2.cur hpS k _ _ (fun s => a2.agree.cells _ s (List.mem_map_of_mem m1))
        (fun s => a2.agree.cells _ s (List.mem_map_of_mem m2))]
      obtain ⟨hp, hps⟩ := recheckPos_pos c t2.cur hpS k hb hs
      obtain ⟨r, a3⟩ := par_finishInsert c _ t2 u2 k v ca me fn _
        (hp.elim (· ▸ List.mem_map_of_mem m1) (· ▸ List.mem_map_of_mem m2)) hps a2.agree
      exact ⟨congrArg some r, (a.trans a2).trans a3⟩

end Cuckoo.Model
