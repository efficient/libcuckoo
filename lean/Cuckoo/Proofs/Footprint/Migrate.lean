import Cuckoo.Proofs.Footprint.Rel
import Cuckoo.Proofs.Lock
/-!
Footprint of the lazy migration.  Stripe `l` owns the old buckets `b ≡ l (mod M)` and their upper halves `b + 2^oldhp`;
as `M` divides `2^oldhp` these are again buckets of stripe `l` (stripe stability), so `rehash_lock(l)` writes only
stripe `l`, and from two tables that agree on `L` (and on the old array while a migration is pending in both) taking a
stripe `l ∈ L` is the same step.  `lock_one/two/three` fold `rehash_lock<LAZY>` over stripes that do not depend on the
table.
-/
namespace Cuckoo.Model
open Cuckoo Cuckoo.Model.Conc
variable {κ ν : Type}

/-- flat indices of the cells of buckets `b` and `b + 2^ohp` for the old buckets `b ≡ l (mod M)` -/
def StripeIdx (c : Cfg κ) (ohp l : Nat) (k : Nat) : Prop :=
  ∃ b s, s < c.S ∧ b < 2 ^ ohp ∧ b % c.M = l ∧ (k = b * c.S + s ∨ k = (b + 2 ^ ohp) * c.S + s)

theorem StripeIdx.stripe {c : Cfg κ} {ohp l k : Nat} (h : StripeIdx c ohp l k) : k / c.S % 2 ^ ohp % c.M = l := by
  obtain ⟨b, s, hs, hb, hm, rfl | rfl⟩ := h <;> rw [flat_div hs]
  · rw [Nat.mod_eq_of_lt hb, hm]
  · rw [Nat.add_mod_right, Nat.mod_eq_of_lt hb, hm]

theorem StripeIdx.disjoint (c : Cfg κ) (ohp i j k : Nat) (hi : StripeIdx c ohp i k) (hj : StripeIdx c ohp j k) :
    i = j :=
  hi.stripe.symm.trans hj.stripe

theorem migrateStripe_other (c : Cfg κ) (o cur : Store κ ν) (l b s : Nat) (hd : c.M ∣ 2 ^ o.hp) (hl : l < c.M)
    (hb : c.lockInd b ≠ l) :
    (migrateBuckets c o l ((2 ^ o.hp + c.M - 1 - l) / c.M) l cur).get c.S b s = cur.get c.S b s := by
  have hst := stripeWrites_stripe c o cur.hp l hl hd
  rw [migrateBuckets_eq_fold]
  exact fold_get_untouched _ _ _ _ _ (fun w hw => (hst w hw).1) (fun w hw e => hb (e.1 ▸ (hst w hw).2))

theorem ww_migLock (c : Cfg κ) (t : Table κ ν) (l : Nat) (o : Store κ ν) (lazy : Bool) (hd : c.M ∣ 2 ^ o.hp)
    (hl : l < c.M) (hold : t.old = some o) : WritesWithin c [l] t (migLock c t l o lazy) := by
  refine .of_scal (migLock_scal c t l o lazy hold) (fun b s hb => ?_) (fun i hi => ?_)
  · exact migrateStripe_other c o t.cur l b s hd hl (fun e => hb (by rw [e]; exact List.mem_singleton.mpr rfl))
  · rw [migLock_locks, Array.getElem?_modify, if_neg]
    intro e
    exact hi (by rw [e]; exact List.mem_singleton.mpr rfl)

theorem Inv.old_of_pending {c : Cfg κ} {t : Table κ ν} (h : Inv c t) {l : Nat} {lk : Lock} (hlk : t.locks[l]? = some lk)
    (hmig : lk.migrated = false) : 0 < t.rem ∧ ∃ o, t.old = some o := by
  have hp : 0 < t.rem := by rw [h.rem_eq]; exact nUnmig_pos_of t l lk hlk hmig
  exact ⟨hp, (h.pending hp).imp fun _ ho => ho.1⟩

/-- `rehash_lock(l)` writes only stripe `l`; all it needs of the invariant is that, while stripe `l` is pending,
the stripes are stable under the doubling (`kMaxNumLocks ≤ 2^oldhp`, a power of two) and `l` is a stripe -/
theorem ww_rehashLock_of (c : Cfg κ) (t : Table κ ν) (m l : Nat) (lazy : Bool) (hM : c.M = 2 ^ m)
    (hpend : ∀ lk o, t.locks[l]? = some lk → lk.migrated = false → t.old = some o →
      c.M ≤ 2 ^ o.hp ∧ t.locks.size ≤ c.M) :
    WritesWithin c [l] t (t.rehashLock c l lazy) := by
  rcases rehashLock_cases c t l lazy with ⟨e, _⟩ | ⟨lk, o, hlk, hmig, hold, e⟩ <;> rw [e]
  · exact .refl c [l] t
  · obtain ⟨hle, hsz⟩ := hpend lk o hlk hmig hold
    have hl : l < c.M := by
      have := (Array.getElem?_eq_some_iff.mp hlk).1; omega
    have hd : c.M ∣ 2 ^ o.hp := by
      rw [hM] at hle ⊢
      exact Nat.pow_dvd_pow 2 ((Nat.pow_le_pow_iff_right (by decide : 1 < 2)).mp hle)
    exact ww_migLock c t l o lazy hd hl hold

/-- what `ww_rehashLock_of` needs, from the weak invariant -/
theorem WInv.stable {c : Cfg κ} {t : Table κ ν} (hw : WInv c t) (l : Nat) (lk : Lock) (o : Store κ ν)
    (hlk : t.locks[l]? = some lk) (hmig : lk.migrated = false) (hold : t.old = some o) :
    c.M ≤ 2 ^ o.hp ∧ t.locks.size ≤ c.M := by
  obtain ⟨o', ho', _, _, hle, hsz⟩ := hw.pending (nUnmig_pos_of t l lk hlk hmig)
  cases hold.symm.trans ho'
  exact ⟨hle, Nat.le_of_eq hsz⟩

theorem ww_rehashLock (c : Cfg κ) (L : List Nat) (t : Table κ ν) (l : Nat) (lazy : Bool) (h : Inv c t)
    (hl : l ∈ L) : WritesWithin c L t (t.rehashLock c l lazy) := by
  obtain ⟨m, hM⟩ := h.M_pow
  exact (ww_rehashLock_of c t m l lazy hM (h.toW.stable l)).mono (fun i hi => by rw [List.mem_singleton.mp hi]; exact hl)

theorem migrateStripe_congr (c : Cfg κ) (o cur cur' : Store κ ν) (l b s : Nat)
    (hhp : cur'.hp = cur.hp) (hsz : cur'.cells.size = cur.cells.size)
    (h : cur'.get c.S b s = cur.get c.S b s) :
    (migrateBuckets c o l ((2 ^ o.hp + c.M - 1 - l) / c.M) l cur').get c.S b s =
      (migrateBuckets c o l ((2 ^ o.hp + c.M - 1 - l) / c.M) l cur).get c.S b s := by
  by_cases hs : s < c.S
  · rw [migrateBuckets_eq_fold, migrateBuckets_eq_fold, hhp]
    exact Store.get_eq_of_cell_eq _ _ _ _ _ (fold_cell_congr c.S _ cur' cur _
      (Store.cell_eq_of_get_eq c.S cur cur' b s hs hsz h))
  · rw [Store.get_of_not_lt _ _ _ _ hs, Store.get_of_not_lt _ _ _ _ hs]

theorem migLock_oldRule (c : Cfg κ) (t : Table κ ν) (l : Nat) (o : Store κ ν) (hold : t.old = some o) :
    OldRule t (migLock c t l o true) := by
  unfold OldRule
  rw [migLock_old, migLock_rem, if_pos rfl, hold]
  by_cases h1 : t.rem = 1
  · rw [if_pos ⟨rfl, h1⟩, if_pos ⟨by omega, by omega⟩]
  · rw [if_neg (fun h => h1 h.2), if_neg (fun h => h1 (by omega))]

theorem rehashLock_oldRule (c : Cfg κ) (t : Table κ ν) (l : Nat) :
    OldRule t (t.rehashLock c l true) ∧ (t.rehashLock c l true).rem ≤ t.rem := by
  rcases rehashLock_cases c t l true with ⟨e, _⟩ | ⟨lk, o, _, _, hold, e⟩ <;> rw [e]
  · exact ⟨OldRule.refl t, Nat.le_refl _⟩
  · exact ⟨migLock_oldRule c t l o hold, (migLock_scal c t l o true hold).rem⟩

theorem agree_migLock (c : Cfg κ) (L : List Nat) (t u : Table κ ν) (l : Nat) (o : Store κ ν) (lazy : Bool)
    (ha : AgreeL c L t u) : AgreeL c L (migLock c t l o lazy) (migLock c u l o lazy) where
  cells b s hb := migrateStripe_congr c o t.cur u.cur l b s ha.hp ha.csize (ha.cells b s hb)
  locks i hi := by rw [migLock_locks, migLock_locks, Array.getElem?_modify, Array.getElem?_modify, ha.locks i hi]
  nlocks := by rw [migLock_locks, migLock_locks, Array.size_modify, Array.size_modify]; exact ha.nlocks
  hp := (migrateBuckets_hp ..).trans (ha.hp.trans (migrateBuckets_hp ..).symm)
  csize := (migrateBuckets_size ..).trans (ha.csize.trans (migrateBuckets_size ..).symm)
  rc := ha.rc

theorem rehashLock_transp (c : Cfg κ) (L : List Nat) (t u : Table κ ν) (l : Nat) (hl : l ∈ L) (ht : Inv c t)
    (hu : Inv c u) (ha : AgreeOn c L t u) :
    Transp c L t u (t.rehashLock c l true) (u.rehashLock c l true) := by
  -- the one-table fields hold on any table; only the agreement and the `rem` equation compare the two runs
  obtain ⟨oT, rT⟩ := rehashLock_oldRule c t l
  obtain ⟨oU, rU⟩ := rehashLock_oldRule c u l
  suffices h : AgreeL c L (t.rehashLock c l true) (u.rehashLock c l true) ∧
      (u.rehashLock c l true).rem + t.rem = u.rem + (t.rehashLock c l true).rem from ⟨h.1, h.2, rT, rU, oT, oU⟩
  have hlk := ha.loc.locks l hl
  rcases rehashLock_cases c t l true with ⟨et, st⟩ | ⟨lk, o, hlt, hmig, hot, et⟩
  · -- `t` has nothing to do: neither has `u`, which sees the same lock (and, were it pending, an old array)
    rw [et, rehashLock_skip c u l true]
    · exact ⟨ha.loc, rfl⟩
    · intro lk hk
      rw [hlk] at hk
      cases hm : lk.migrated with
      | true => exact Or.inl rfl
      | false =>
        obtain ⟨_, o, ho⟩ := ht.old_of_pending hk hm
        rcases st lk hk with h | h
        · rw [hm] at h; cases h
        · rw [h] at ho; cases ho
  · have hlu : u.locks[l]? = some lk := hlk.trans hlt
    obtain ⟨hpt, _⟩ := ht.old_of_pending hlt hmig
    obtain ⟨hpu, _⟩ := hu.old_of_pending hlu hmig
    rw [et, rehashLock_pending c u l lk o true hlu hmig ((ha.gold hpu hpt).trans hot)]
    refine ⟨agree_migLock c L t u l o true ha.loc, ?_⟩
    show u.rem - 1 + t.rem = u.rem + (t.rem - 1)
    omega

theorem par_rehashLock (c : Cfg κ) (L : List Nat) (t u : Table κ ν) (l : Nat) (hl : l ∈ L) (ht : Inv c t)
    (hu : Inv c u) (ha : AgreeOn c L t u) : Par c L t u (t.rehashLock c l true) (u.rehashLock c l true) :=
  ⟨ww_rehashLock c L t l true ht hl, rehashLock_transp c L t u l hl ht hu ha⟩

theorem par_foldl (c : Cfg κ) (L : List Nat) : ∀ (ls : List Nat) (t u : Table κ ν), (∀ l, l ∈ ls → l ∈ L) →
    Inv c t → Inv c u → AgreeOn c L t u →
    Par c L t u (t.lockL c ls) (u.lockL c ls)
  | [], _, _, _, _, _, ha => .refl ha.loc
  | l :: ls, t, u, hs, ht, hu, ha =>
    have a := par_rehashLock c L t u l (hs l (List.mem_cons_self ..)) ht hu ha
    a.trans (par_foldl c L ls _ _ (fun i hi => hs i (List.mem_cons_of_mem _ hi)) (rehashLock_lazy_step c t l ht).inv
      (rehashLock_lazy_step c u l hu).inv (a.tr.agreeOn ha))

theorem par_lockSec (c : Cfg κ) (L : List Nat) (bs : List Nat) (t u : Table κ ν)
    (hs : ∀ b, b ∈ bs → c.lockInd b ∈ L) (ht : Inv c t) (hu : Inv c u) (ha : AgreeOn c L t u) :
    Par c L t u (lockSec (ν := ν) c bs t).1 (lockSec (ν := ν) c bs u).1 := by
  rw [lockSec_eq_lockL, lockSec_eq_lockL]
  refine par_foldl c L _ t u (fun l hl => ?_) ht hu ha
  obtain ⟨b, hb, e⟩ := List.mem_map.mp (lockStripes_sub c bs hl)
  exact e ▸ hs b hb

theorem par_lockTwo (c : Cfg κ) (L : List Nat) (t u : Table κ ν) (b1 b2 : Nat) (h1 : c.lockInd b1 ∈ L)
    (h2 : c.lockInd b2 ∈ L) (ht : Inv c t) (hu : Inv c u) (ha : AgreeOn c L t u) :
    Par c L t u (t.lockTwo c b1 b2) (u.lockTwo c b1 b2) :=
  par_lockSec c L [b1, b2] t u (List.forall_mem_cons.mpr ⟨h1, List.forall_mem_singleton.mpr h2⟩) ht hu ha

end Cuckoo.Model
