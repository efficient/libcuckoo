import Cuckoo.Model.Footprint
import Cuckoo.Proofs.Cell
/-!
The footprint relations and the primitive writes.  Everything a section does is proved once, as a `Par`; its write
footprint is `.frame` of the instance `u := t`, its read footprint is `.tr`.
-/
namespace Cuckoo.Model
open Cuckoo
variable {κ ν : Type}

theorem WritesWithin.of_scal {c : Cfg κ} {L : List Nat} {t t' : Table κ ν} (hs : Scal t t')
    (cells : ∀ b s, c.lockInd b ∉ L → t'.cur.get c.S b s = t.cur.get c.S b s)
    (locks : ∀ l, l ∉ L → t'.locks[l]? = t.locks[l]?) : WritesWithin c L t t' :=
  ⟨cells, locks, hs.nlocks, hs.hp, hs.csize, hs.rc, hs.gens, ⟨hs.mlf, hs.mhp, hs.workers⟩, hs.old, hs.rem⟩

theorem WritesWithin.scal {c : Cfg κ} {L : List Nat} {t t' : Table κ ν} (h : WritesWithin c L t t') : Scal t t' :=
  ⟨h.hp, h.csize, h.nlocks, h.rc, h.gens, h.cfg.1, h.cfg.2.1, h.cfg.2.2, h.old, h.rem⟩

theorem WritesWithin.refl (c : Cfg κ) (L : List Nat) (t : Table κ ν) : WritesWithin c L t t :=
  .of_scal (.refl t) (fun _ _ _ => rfl) (fun _ _ => rfl)

theorem WritesWithin.trans {c : Cfg κ} {L : List Nat} {t t' t'' : Table κ ν}
    (h : WritesWithin c L t t') (h' : WritesWithin c L t' t'') : WritesWithin c L t t'' :=
  .of_scal (h.scal.trans h'.scal) (fun b s hb => (h'.cells b s hb).trans (h.cells b s hb))
    (fun l hl => (h'.locks l hl).trans (h.locks l hl))

theorem WritesWithin.mono {c : Cfg κ} {L L' : List Nat} {t t' : Table κ ν}
    (h : WritesWithin c L t t') (hsub : ∀ l, l ∈ L → l ∈ L') : WritesWithin c L' t t' :=
  .of_scal h.scal (fun b s hb => h.cells b s (fun hm => hb (hsub _ hm))) (fun l hl => h.locks l (fun hm => hl (hsub _ hm)))

theorem WritesWithin.append {c : Cfg κ} {L1 L2 : List Nat} {t t1 t2 : Table κ ν}
    (h1 : WritesWithin c L1 t t1) (h2 : WritesWithin c L2 t1 t2) : WritesWithin c (L1 ++ L2) t t2 :=
  (h1.mono (fun _ hl => List.mem_append.mpr (Or.inl hl))).trans
    (h2.mono (fun _ hl => List.mem_append.mpr (Or.inr hl)))

/-- `t` and `u` agree on the stripes `L` and on the validated scalars -/
structure AgreeL (c : Cfg κ) (L : List Nat) (t u : Table κ ν) : Prop where
  cells  : ∀ b s, c.lockInd b ∈ L → u.cur.get c.S b s = t.cur.get c.S b s
  locks  : ∀ l, l ∈ L → u.locks[l]? = t.locks[l]?
  nlocks : u.locks.size = t.locks.size
  hp     : u.hp = t.hp
  csize  : u.cur.cells.size = t.cur.cells.size
  rc     : u.rc = t.rc

/-- while a migration is pending in both tables they have the same old bucket array -/
def GOld (t u : Table κ ν) : Prop := 0 < u.rem → 0 < t.rem → u.old = t.old

/-- `t` and `u` agree on the stripes `L` and on everything global that a section holding `L` reads -/
structure AgreeOn (c : Cfg κ) (L : List Nat) (t u : Table κ ν) : Prop where
  loc : AgreeL c L t u
  gold : GOld t u

/-- the old array is released exactly when `rem` goes from positive to 0 -/
def OldRule (t t' : Table κ ν) : Prop := t'.old = if 0 < t.rem ∧ t'.rem = 0 then none else t.old

/-- `t → t'` and `u → u'` are the same stripe-local step from two tables agreeing on `L` -/
structure Transp (c : Cfg κ) (L : List Nat) (t u t' u' : Table κ ν) : Prop where
  agree : AgreeL c L t' u'
  rem   : u'.rem + t.rem = u.rem + t'.rem
  remT  : t'.rem ≤ t.rem
  remU  : u'.rem ≤ u.rem
  oldT  : OldRule t t'
  oldU  : OldRule u u'

theorem AgreeL.symm {c : Cfg κ} {L : List Nat} {t u : Table κ ν} (h : AgreeL c L t u) : AgreeL c L u t :=
  ⟨fun b s hb => (h.cells b s hb).symm, fun l hl => (h.locks l hl).symm, h.nlocks.symm, h.hp.symm, h.csize.symm,
   h.rc.symm⟩

theorem AgreeL.trans {c : Cfg κ} {L : List Nat} {t u w : Table κ ν} (h : AgreeL c L t u) (h' : AgreeL c L u w) :
    AgreeL c L t w :=
  ⟨fun b s hb => (h'.cells b s hb).trans (h.cells b s hb), fun l hl => (h'.locks l hl).trans (h.locks l hl),
   h'.nlocks.trans h.nlocks, h'.hp.trans h.hp, h'.csize.trans h.csize, h'.rc.trans h.rc⟩

theorem AgreeL.mono {c : Cfg κ} {L L' : List Nat} {t u : Table κ ν} (h : AgreeL c L t u)
    (hsub : ∀ l, l ∈ L' → l ∈ L) : AgreeL c L' t u :=
  ⟨fun b s hb => h.cells b s (hsub _ hb), fun l hl => h.locks l (hsub _ hl), h.nlocks, h.hp, h.csize, h.rc⟩

theorem AgreeOn.refl (c : Cfg κ) (L : List Nat) (t : Table κ ν) : AgreeOn c L t t :=
  ⟨⟨fun _ _ _ => rfl, fun _ _ => rfl, rfl, rfl, rfl, rfl⟩, fun _ _ => rfl⟩

theorem OldRule.of_eq {t t' : Table κ ν} (hr : t'.rem = t.rem) (ho : t'.old = t.old) : OldRule t t' := by
  unfold OldRule
  rw [hr, ho, if_neg (by omega)]

theorem OldRule.refl (t : Table κ ν) : OldRule t t := .of_eq rfl rfl

theorem OldRule.trans {t t' t'' : Table κ ν} (h : OldRule t t') (h' : OldRule t' t'')
    (hm : t'.rem ≤ t.rem) (hm' : t''.rem ≤ t'.rem) : OldRule t t'' := by
  unfold OldRule at *
  by_cases h0 : 0 < t.rem
  · by_cases h2 : t''.rem = 0
    · rw [if_pos ⟨h0, h2⟩]
      by_cases h1 : t'.rem = 0
      · rw [h', if_neg (by omega), h, if_pos ⟨h0, h1⟩]
      · rw [h', if_pos ⟨by omega, h2⟩]
    · rw [if_neg (fun x => h2 x.2), h', if_neg (fun x => h2 x.2), h, if_neg (fun x => by omega)]
  · rw [if_neg (fun x => h0 x.1), h', if_neg (fun x => by omega), h, if_neg (fun x => h0 x.1)]

theorem Transp.agreeOn {c : Cfg κ} {L : List Nat} {t u t' u' : Table κ ν} (h : Transp c L t u t' u')
    (g : AgreeOn c L t u) : AgreeOn c L t' u' := by
  refine ⟨h.agree, fun hu ht => ?_⟩
  have e1 := h.oldT
  have e2 := h.oldU
  have hm1 := h.remT
  have hm2 := h.remU
  unfold OldRule at e1 e2
  rw [e1, e2, if_neg (fun x => by omega), if_neg (fun x => by omega)]
  exact g.gold (by omega) (by omega)

theorem Transp.refl {c : Cfg κ} {L : List Nat} {t u : Table κ ν} (h : AgreeL c L t u) : Transp c L t u t u :=
  ⟨h, rfl, Nat.le_refl _, Nat.le_refl _, OldRule.refl t, OldRule.refl u⟩

theorem Transp.trans {c : Cfg κ} {L : List Nat} {t u t1 u1 t2 u2 : Table κ ν} (h : Transp c L t u t1 u1)
    (h' : Transp c L t1 u1 t2 u2) : Transp c L t u t2 u2 where
  agree := h'.agree
  rem := by have := h.rem; have := h'.rem; omega
  remT := Nat.le_trans h'.remT h.remT
  remU := Nat.le_trans h'.remU h.remU
  oldT := h.oldT.trans h'.oldT h.remT h'.remT
  oldU := h.oldU.trans h'.oldU h.remU h'.remU

theorem Transp.mono {c : Cfg κ} {L L' : List Nat} {t u t' u' : Table κ ν} (h : Transp c L t u t' u')
    (hsub : ∀ l, l ∈ L' → l ∈ L) : Transp c L' t u t' u' :=
  ⟨h.agree.mono hsub, h.rem, h.remT, h.remU, h.oldT, h.oldU⟩

theorem AgreeOn.of_writes {c : Cfg κ} {L L' : List Nat} {t u : Table κ ν} (h : WritesWithin c L' t u)
    (hd : ∀ l, l ∈ L → l ∉ L') : AgreeOn c L t u where
  loc := ⟨fun b s hb => h.cells b s (hd _ hb), fun l hl => h.locks l (hd l hl), h.nlocks, h.hp, h.csize, h.rc⟩
  gold := by
    intro hu _
    rcases h.old with e | ⟨_, e⟩
    · exact e
    · omega

/-- the same step from `t` and from `u`, local to the stripes `L`: it writes only inside `L` (`frame`), and from two
tables that agree on `L` it does the same (`tr`) -/
structure Par (c : Cfg κ) (L : List Nat) (t u t' u' : Table κ ν) : Prop where
  frame : WritesWithin c L t t'
  tr : Transp c L t u t' u'

namespace Par
variable {c : Cfg κ} {L : List Nat} {t u t1 u1 t2 u2 : Table κ ν}

theorem refl (h : AgreeL c L t u) : Par c L t u t u := ⟨WritesWithin.refl c L t, Transp.refl h⟩

theorem trans (h : Par c L t u t1 u1) (h' : Par c L t1 u1 t2 u2) : Par c L t u t2 u2 :=
  ⟨h.frame.trans h'.frame, h.tr.trans h'.tr⟩

theorem agree (h : Par c L t u t1 u1) : AgreeL c L t1 u1 := h.tr.agree

/-- the same rewrite of the current array and of the lock array, inside the stripes `L`, on two agreeing tables;
`rem` and the old array are left alone -/
theorem upd {ct cu : Store κ ν} {lt lu : Array Lock} (h : AgreeL c L t u)
    (hpt : ct.hp = t.cur.hp) (hpu : cu.hp = u.cur.hp)
    (szt : ct.cells.size = t.cur.cells.size) (szu : cu.cells.size = u.cur.cells.size)
    (nlt : lt.size = t.locks.size) (nlu : lu.size = u.locks.size)
    (cellsT : ∀ b s, c.lockInd b ∉ L → ct.get c.S b s = t.cur.get c.S b s)
    (locksT : ∀ l, l ∉ L → lt[l]? = t.locks[l]?)
    (cells : ∀ b s, c.lockInd b ∈ L → cu.get c.S b s = ct.get c.S b s)
    (locks : ∀ l, l ∈ L → lu[l]? = lt[l]?) :
    Par c L t u { t with cur := ct, locks := lt } { u with cur := cu, locks := lu } :=
  ⟨⟨cellsT, locksT, nlt, hpt, szt, rfl, rfl, ⟨rfl, rfl, rfl⟩, .inl rfl, Nat.le_refl _⟩,
   ⟨cells, locks, nlu.trans (h.nlocks.trans nlt.symm), hpu.trans (h.hp.trans hpt.symm),
    szu.trans (h.csize.trans szt.symm), h.rc⟩, rfl, Nat.le_refl _, Nat.le_refl _, .of_eq rfl rfl, .of_eq rfl rfl⟩

end Par

theorem par_set (c : Cfg κ) (L : List Nat) (t u : Table κ ν) (b s : Nat) (v : Option (Slot κ ν)) (hs : s < c.S)
    (hb : c.lockInd b ∈ L) (h : AgreeL c L t u) :
    Par c L t u { t with cur := t.cur.set c.S b s v } { u with cur := u.cur.set c.S b s v } :=
  .upd (lt := t.locks) (lu := u.locks) h (Store.set_hp ..) (Store.set_hp ..) (Store.set_size ..) (Store.set_size ..)
    rfl rfl
    (fun b' s' hb' => Store.get_set_other c.S t.cur b s b' s' v hs (fun e : b' = b ∧ s' = s => hb' (e.1 ▸ hb)))
    (fun _ _ => rfl)
    (fun b' s' hb' => by
      rw [Store.get_set_gen _ _ _ _ _ _ _ hs, Store.get_set_gen _ _ _ _ _ _ _ hs, h.csize, h.cells b' s' hb'])
    h.locks

theorem par_bump (c : Cfg κ) (L : List Nat) (t u : Table κ ν) (b : Nat) (d : Int) (hb : c.lockInd b ∈ L)
    (h : AgreeL c L t u) : Par c L t u (t.bump c b d) (u.bump c b d) :=
  .upd (ct := t.cur) (cu := u.cur) h rfl rfl rfl rfl (Array.size_modify ..) (Array.size_modify ..) (fun _ _ _ => rfl)
    (fun l hl => by rw [Array.getElem?_modify, if_neg (fun e : c.lockInd b = l => hl (e ▸ hb))])
    h.cells (fun l hl => by rw [Array.getElem?_modify, Array.getElem?_modify, h.locks l hl])

theorem par_addTo (c : Cfg κ) (L : List Nat) (t u : Table κ ν) (b s : Nat) (sl : Slot κ ν) (hs : s < c.S)
    (hb : c.lockInd b ∈ L) (h : AgreeL c L t u) : Par c L t u (t.addTo c b s sl) (u.addTo c b s sl) :=
  have a := par_set c L t u b s (some sl) hs hb h
  a.trans (par_bump c L _ _ b 1 hb a.agree)

theorem par_delFrom (c : Cfg κ) (L : List Nat) (t u : Table κ ν) (b s : Nat) (hs : s < c.S)
    (hb : c.lockInd b ∈ L) (h : AgreeL c L t u) : Par c L t u (t.delFrom c b s) (u.delFrom c b s) :=
  have a := par_set c L t u b s none hs hb h
  a.trans (par_bump c L _ _ b (-1) hb a.agree)

/-- `setVal` reads the cell first, and writes only if it is occupied, hence only for `s < S` -/
theorem par_setVal (c : Cfg κ) (L : List Nat) (t u : Table κ ν) (b s : Nat) (v : ν) (hb : c.lockInd b ∈ L)
    (h : AgreeL c L t u) : Par c L t u (t.setVal c b s v) (u.setVal c b s v) := by
  cases hg : t.cur.get c.S b s with
  | none =>
    rw [setVal_of_none hg, setVal_of_none ((h.cells b s hb).trans hg)]
    exact .refl h
  | some sl =>
    rw [setVal_of_some hg, setVal_of_some ((h.cells b s hb).trans hg)]
    exact par_set c L t u b s _ (Store.get_some_lt hg).1 hb h

theorem par_hop (c : Cfg κ) (L : List Nat) (t u : Table κ ν) (fr to : PathRec) (hto : to.slot < c.S)
    (hfb : c.lockInd fr.bucket ∈ L) (htb : c.lockInd to.bucket ∈ L) (h : AgreeL c L t u) :
    (hop c t fr to = none ∧ hop c u fr to = none) ∨
    ∃ t2 u2, hop c t fr to = some t2 ∧ hop c u fr to = some u2 ∧ Par c L t u t2 u2 := by
  unfold hop
  rw [h.cells _ _ hfb, h.cells _ _ htb]
  cases t.cur.get c.S to.bucket to.slot with
  | some _ => exact Or.inl ⟨rfl, rfl⟩
  | none =>
    cases hgf : t.cur.get c.S fr.bucket fr.slot with
    | none => exact Or.inl ⟨rfl, rfl⟩
    | some sl =>
      simp only
      by_cases e : c.hash sl.key = fr.hash
      · rw [if_pos e, if_pos e]
        have a := par_set c L t u to.bucket to.slot (some sl) hto htb h
        exact Or.inr ⟨_, _, rfl, rfl, a.trans (par_set c L _ _ fr.bucket fr.slot none (Store.get_some_lt hgf).1 hfb a.agree)⟩
      · rw [if_neg e, if_neg e]
        exact Or.inl ⟨rfl, rfl⟩

end Cuckoo.Model
