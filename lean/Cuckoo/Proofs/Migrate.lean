import Cuckoo.Proofs.Stripe
/-!
`rehash_lock` and `rehash_with_workers`.  `rehashLock` does nothing or migrates one stripe (`rehashLock_cases`, result
`migLock`); either way the scalars of the table are framed (`rehashLock_scal`) and the weak invariant and the live view
are kept (`rehashLock_migr`); the same over a list of stripes (`foldl_rehashLock_migr`), of which `migrateAll` is the
case of all stripes, not lazy.
-/
namespace Cuckoo.Model
open Cuckoo
variable {κ ν : Type}

/-- the table after stripe `l` has been split into the current array (no `rem` bookkeeping) -/
def migT (c : Cfg κ) (t : Table κ ν) (l : Nat) (o : Store κ ν) : Table κ ν :=
  { t with cur := migrateBuckets c o l ((2 ^ o.hp + c.M - 1 - l) / c.M) l t.cur,
           locks := t.locks.modify l (fun x => { x with migrated := true }) }

theorem rehashLock_skip (c : Cfg κ) (t : Table κ ν) (l : Nat) (lazy : Bool)
    (h : ∀ lk, t.locks[l]? = some lk → lk.migrated = true ∨ t.old = none) :
    t.rehashLock c l lazy = t := by
  unfold Table.rehashLock
  cases hlk : t.locks[l]? with
  | none => rfl
  | some lk =>
    simp only []
    rcases h lk hlk with h1 | h1 <;> simp [h1]

/-- the weak invariant and the live view do not depend on the `rem`/`old` bookkeeping, as long as the old array is
only dropped when no stripe is pending -/
theorem WInv.of_bookkeeping {c : Cfg κ} {t : Table κ ν} (hw : WInv c t) (r : Nat) {o : Option (Store κ ν)}
    (ho : o = t.old ∨ (o = none ∧ t.nUnmig = 0)) :
    WInv c { t with rem := r, old := o } ∧
    ∀ sl, ({ t with rem := r, old := o } : Table κ ν).Live c sl ↔ t.Live c sl := by
  have hat : ∀ p, ({ t with rem := r, old := o } : Table κ ν).at c p = t.at c p := by
    rintro (⟨b, s⟩ | ⟨b, s⟩)
    · rfl
    · rcases ho with rfl | ⟨rfl, hz⟩
      · rfl
      · exact (((nUnmig_zero_iff t).mp hz).at_old b s).symm
  refine ⟨⟨hw.S_pos, hw.M_pow, hw.cur_wf, hw.locks_pow, hw.locks_le, hw.locks_ge, fun h => ?_, hw.unmig_empty,
    fun p p' sl sl' h1 h2 => hw.uniq p p' sl sl' (hat p ▸ h1) (hat p' ▸ h2), hw.limit⟩,
    fun sl => exists_congr fun p => by rw [hat]⟩
  rw [show o = t.old from ho.resolve_right fun h0 => Nat.ne_of_gt h h0.2]
  exact hw.pending h

theorem migT_scal (c : Cfg κ) (t : Table κ ν) (l : Nat) (o : Store κ ν) : Scal t (migT c t l o) where
  hp := migrateBuckets_hp c o l _ l t.cur
  csize := migrateBuckets_size c o l _ l t.cur
  nlocks := Array.size_modify
  rc := rfl
  gens := rfl
  mlf := rfl
  mhp := rfl
  workers := rfl
  old := .inl rfl
  rem := Nat.le_refl _

theorem unmigB_flagged {c : Cfg κ} {t T : Table κ ν} {l : Nat} {lk : Lock}
    (hT : T.locks = t.locks.modify l (fun x => { x with migrated := true })) (hlk : t.locks[l]? = some lk) (b : Nat) :
    T.unmigB c b = if b % c.M = l then false else t.unmigB c b := by
  unfold Table.unmigB
  rw [hT, show c.lockInd b = b % c.M from rfl, Array.getElem?_modify]
  by_cases hb : b % c.M = l
  · rw [if_pos hb, if_pos hb.symm, hb, hlk]; rfl
  · rw [if_neg hb, if_neg (fun h => hb h.symm)]

theorem migT_nUnmig (c : Cfg κ) (t : Table κ ν) (l : Nat) (lk : Lock) (o : Store κ ν) (hlk : t.locks[l]? = some lk)
    (hmig : lk.migrated = false) : (migT c t l o).nUnmig + 1 = t.nUnmig := by
  unfold Table.nUnmig
  show ((t.locks.modify l _).toList.filter _).length + 1 = _
  rw [Array.toList_modify]
  exact filter_modify_len _ l lk (by rw [Array.getElem?_toList]; exact hlk) hmig

theorem migT_spec (c : Cfg κ) (t : Table κ ν) (l : Nat) (lk : Lock) (o : Store κ ν)
    (hw : WInv c t) (hlk : t.locks[l]? = some lk) (hmig : lk.migrated = false) (hold : t.old = some o) :
    WInv c (migT c t l o) ∧ ∀ sl, (migT c t l o).Live c sl ↔ t.Live c sl := by
  obtain ⟨hC, tgt, src, compl, keys⟩ := rehashWrites_spec c t l lk o hw hlk hmig hold
  have hlive := at_old_stripe c t l lk o hlk hmig hold
  refine hw.relocate (P := fun b => b % c.M = l) (migT_scal c t l o) rfl hC (migrateBuckets_eq_fold ..) (fun b => ?_)
    (fun b hb => unmigB_of c t b l lk hb hlk hmig) tgt
    (fun w h => ?_) (fun b s sl hb h => compl b s sl hb ((hlive b s hb).symm.trans h)) keys
    (fun _ => nUnmig_pos_of t l lk hlk hmig)
  · rw [unmigB_flagged (T := migT c t l o) rfl hlk]
    by_cases hb : b % c.M = l
    · rw [if_pos hb]; exact ⟨fun h => (nomatch h), fun h => absurd hb h.1⟩
    · rw [if_neg hb]; exact ⟨fun h => ⟨hb, h⟩, fun h => h.2⟩
  · obtain ⟨b, s, hb, _, hg⟩ := src w h
    exact ⟨b, s, hb, (hlive b s hb).trans hg⟩

/-- the table after `rehash_lock<lazy>` has migrated stripe `l`: the stripe is split into the current array and flagged
(`migT`); a lazy call also counts the stripe off, and the last one releases the old array -/
def migLock (c : Cfg κ) (t : Table κ ν) (l : Nat) (o : Store κ ν) (lazy : Bool) : Table κ ν :=
  { migT c t l o with rem := if lazy then t.rem - 1 else t.rem,
                      old := if lazy = true ∧ t.rem = 1 then none else some o }

theorem migLock_locks (c : Cfg κ) (t : Table κ ν) (l : Nat) (o : Store κ ν) (lazy : Bool) :
    (migLock c t l o lazy).locks = t.locks.modify l (fun x => { x with migrated := true }) := rfl

theorem migLock_rem (c : Cfg κ) (t : Table κ ν) (l : Nat) (o : Store κ ν) (lazy : Bool) :
    (migLock c t l o lazy).rem = if lazy then t.rem - 1 else t.rem := rfl

theorem migLock_old (c : Cfg κ) (t : Table κ ν) (l : Nat) (o : Store κ ν) (lazy : Bool) :
    (migLock c t l o lazy).old = if lazy = true ∧ t.rem = 1 then none else some o := rfl

theorem rehashLock_pending (c : Cfg κ) (t : Table κ ν) (l : Nat) (lk : Lock) (o : Store κ ν) (lazy : Bool)
    (hlk : t.locks[l]? = some lk) (hmig : lk.migrated = false) (hold : t.old = some o) :
    t.rehashLock c l lazy = migLock c t l o lazy := by
  unfold Table.rehashLock migLock
  rw [hlk]
  simp only [hmig, hold, migT]
  cases lazy
  · simp
  · by_cases h1 : t.rem = 1 <;> simp [h1]

theorem rehashLock_last (c : Cfg κ) (t : Table κ ν) (l : Nat) (lk : Lock) (o : Store κ ν) (hrem : t.rem = 1)
    (hlk : t.locks[l]? = some lk) (hmig : lk.migrated = false) (hold : t.old = some o) :
    t.rehashLock c l true = { migT c t l o with rem := 0, old := none } := by
  rw [rehashLock_pending c t l lk o true hlk hmig hold]
  simp [migLock, hrem]

theorem rehashLock_cases (c : Cfg κ) (t : Table κ ν) (l : Nat) (lazy : Bool) :
    (t.rehashLock c l lazy = t ∧ ∀ lk, t.locks[l]? = some lk → lk.migrated = true ∨ t.old = none) ∨
    ∃ lk o, t.locks[l]? = some lk ∧ lk.migrated = false ∧ t.old = some o ∧
      t.rehashLock c l lazy = migLock c t l o lazy := by
  cases hlk : t.locks[l]? with
  | none => exact .inl ⟨rehashLock_skip c t l lazy (by simp [hlk]), fun _ h => nomatch h⟩
  | some lk =>
    cases hm : lk.migrated with
    | true => exact .inl ⟨rehashLock_skip c t l lazy (by simp [hlk, hm]), fun _ h => by cases h; exact .inl hm⟩
    | false =>
      cases ho : t.old with
      | none => exact .inl ⟨rehashLock_skip c t l lazy (by simp [ho]), fun _ _ => .inr rfl⟩
      | some o => exact .inr ⟨lk, o, rfl, hm, rfl, rehashLock_pending c t l lk o lazy hlk hm ho⟩

theorem migLock_scal (c : Cfg κ) (t : Table κ ν) (l : Nat) (o : Store κ ν) (lazy : Bool) (hold : t.old = some o) :
    Scal t (migLock c t l o lazy) :=
  { migT_scal c t l o with
    old := by
      rw [migLock_old, migLock_rem]
      by_cases hc : lazy = true ∧ t.rem = 1
      · rw [if_pos hc, if_pos hc.1, hc.2]; exact .inr ⟨rfl, rfl⟩
      · rw [if_neg hc]; exact .inl hold.symm
    rem := by
      rw [migLock_rem]
      split
      · exact Nat.sub_le _ _
      · exact Nat.le_refl _ }

theorem rehashLock_scal (c : Cfg κ) (t : Table κ ν) (l : Nat) (lazy : Bool) : Scal t (t.rehashLock c l lazy) := by
  rcases rehashLock_cases c t l lazy with ⟨e, _⟩ | ⟨_, o, _, _, hold, e⟩ <;> rw [e]
  · exact Scal.refl t
  · exact migLock_scal c t l o lazy hold

/-- `t'` arises from `t` by `rehash_lock<lazy>` calls: the weak invariant holds again, with the `rem` bookkeeping if the
calls are lazy, and nothing observable has changed -/
structure Migr (c : Cfg κ) (lazy : Bool) (t t' : Table κ ν) : Prop where
  winv : WInv c t'
  rem : lazy = true → t'.rem = t'.nUnmig
  same : Same c t t'
  keeps : Keeps c t t'

theorem Migr.refl {c : Cfg κ} {lazy : Bool} {t : Table κ ν} (hw : WInv c t)
    (hlazy : lazy = true → t.rem = t.nUnmig) : Migr c lazy t t :=
  ⟨hw, hlazy, Same.refl c t, Keeps.refl c t⟩

theorem Migr.trans {c : Cfg κ} {lazy : Bool} {t t' t'' : Table κ ν} (h : Migr c lazy t t')
    (h' : Migr c lazy t' t'') : Migr c lazy t t'' :=
  ⟨h'.winv, h'.rem, h.same.trans h'.same, h.keeps.trans h'.keeps⟩

theorem Migr.step {c : Cfg κ} {t t' : Table κ ν} (h : Migr c true t t') : Step c t t' :=
  ⟨h.winv.toInv (h.rem rfl), h.same, h.keeps⟩

theorem migLock_migr (c : Cfg κ) (t : Table κ ν) (l : Nat) (lk : Lock) (o : Store κ ν) (lazy : Bool)
    (hw : WInv c t) (hlazy : lazy = true → t.rem = t.nUnmig) (hlk : t.locks[l]? = some lk) (hmig : lk.migrated = false)
    (hold : t.old = some o) : Migr c lazy t (migLock c t l o lazy) := by
  have hsc := migLock_scal c t l o lazy hold
  obtain ⟨w0, live0⟩ := migT_spec c t l lk o hw hlk hmig hold
  have n0 := migT_nUnmig c t l lk o hlk hmig
  -- the old array is released only when no stripe is pending any more
  obtain ⟨w1, live1⟩ : WInv c (migLock c t l o lazy) ∧
      ∀ sl, (migLock c t l o lazy).Live c sl ↔ (migT c t l o).Live c sl :=
    w0.of_bookkeeping _ (by
      by_cases hc : lazy = true ∧ t.rem = 1
      · exact .inr ⟨if_pos hc, by have := hlazy hc.1; omega⟩
      · exact .inl ((if_neg hc).trans hold.symm))
  refine ⟨w1, fun hlt => ?_, ⟨fun sl => (live1 sl).trans (live0 sl),
    sumCnt_modify t _ l (fun x => { x with migrated := true }) (fun _ => rfl) rfl, hsc.mlf, hsc.mhp, hsc.workers⟩,
    ⟨hsc.hp, hsc.rc, fun b hb => ?_, fun ha => absurd (ha l lk hlk) (Bool.eq_false_iff.mp hmig)⟩⟩
  · have := hlazy hlt
    show _ = (migT c t l o).nUnmig
    rw [migLock_rem, if_pos hlt]
    omega
  · rw [unmigB_flagged (migLock_locks c t l o lazy) hlk]
    split
    · rfl
    · exact hb

theorem rehashLock_migr (c : Cfg κ) (t : Table κ ν) (l : Nat) (lazy : Bool) (hw : WInv c t)
    (hlazy : lazy = true → t.rem = t.nUnmig) : Migr c lazy t (t.rehashLock c l lazy) := by
  rcases rehashLock_cases c t l lazy with ⟨e, _⟩ | ⟨lk, o, hlk, hmig, hold, e⟩ <;> rw [e]
  · exact .refl hw hlazy
  · exact migLock_migr c t l lk o lazy hw hlazy hlk hmig hold

theorem rehashLock_unmigB (c : Cfg κ) (t : Table κ ν) (l : Nat) (lazy : Bool) (hw : WInv c t) {b : Nat}
    (hb : c.lockInd b = l) : (t.rehashLock c l lazy).unmigB c b = false := by
  rcases rehashLock_cases c t l lazy with ⟨e, hsk⟩ | ⟨lk, o, hlk, _, _, e⟩ <;> rw [e]
  · -- a skipped stripe is migrated: a pending one would still have its old array
    refine unmigB_eq_false.mpr fun lk h => ?_
    rw [hb] at h
    rcases hsk lk h with h' | h'
    · exact h'
    · cases hm : lk.migrated with
      | true => rfl
      | false =>
        obtain ⟨o, ho, _⟩ := hw.pending (nUnmig_pos_of t l lk h hm)
        rw [h'] at ho; cases ho
  · exact (unmigB_flagged (migLock_locks c t l o lazy) hlk b).trans (if_pos hb)

theorem rehashLock_lazy_step (c : Cfg κ) (t : Table κ ν) (l : Nat) (h : Inv c t) : Step c t (t.rehashLock c l true) :=
  (rehashLock_migr c t l true h.toW (fun _ => h.rem_eq)).step

theorem foldl_rehashLock_scal (c : Cfg κ) (lazy : Bool) (ls : List Nat) (t : Table κ ν) :
    Scal t (ls.foldl (fun t l => t.rehashLock c l lazy) t) := by
  induction ls generalizing t with
  | nil => exact Scal.refl t
  | cons l ls ih => exact (rehashLock_scal c t l lazy).trans (ih _)

theorem foldl_rehashLock_migr (c : Cfg κ) (lazy : Bool) (ls : List Nat) : ∀ t : Table κ ν, WInv c t →
    (lazy = true → t.rem = t.nUnmig) →
    Migr c lazy t (ls.foldl (fun t l => t.rehashLock c l lazy) t) ∧
    ∀ b, c.lockInd b ∈ ls → (ls.foldl (fun t l => t.rehashLock c l lazy) t).unmigB c b = false := by
  induction ls with
  | nil => exact fun t hw hlazy => ⟨.refl hw hlazy, fun _ h => nomatch h⟩
  | cons l ls ih =>
    intro t hw hlazy
    have m := rehashLock_migr c t l lazy hw hlazy
    obtain ⟨m', u'⟩ := ih _ m.winv m.rem
    refine ⟨m.trans m', fun b hb => ?_⟩
    rcases List.mem_cons.mp hb with e | hb
    · exact m'.keeps.mono b (rehashLock_unmigB c t l lazy hw e)
    · exact u' b hb

theorem migrateAll_go_eq_foldl (c : Cfg κ) : ∀ (n l : Nat) (t : Table κ ν),
    Table.migrateAll.go c n l t = (List.range' l n).foldl (fun t l => t.rehashLock c l false) t := by
  intro n
  induction n with
  | zero => intro l t; unfold Table.migrateAll.go; rfl
  | succ n ih =>
    intro l t
    unfold Table.migrateAll.go
    rw [ih (l + 1) (t.rehashLock c l false)]
    rfl

theorem migrateAll_eq (c : Cfg κ) (t : Table κ ν) :
    t.migrateAll c = { Table.migrateAll.go c t.locks.size 0 t with rem := 0, old := none } :=
  setRem_zero _

theorem migrateAll_go_migr (c : Cfg κ) (t : Table κ ν) (hw : WInv c t) :
    Migr c false t (Table.migrateAll.go c t.locks.size 0 t) ∧ AllMig (Table.migrateAll.go c t.locks.size 0 t) := by
  rw [migrateAll_go_eq_foldl]
  obtain ⟨m, u⟩ := foldl_rehashLock_migr c false (List.range' 0 t.locks.size) t hw (nomatch ·)
  refine ⟨m, fun i lk hi => ?_⟩
  have hlt := (Array.getElem?_eq_some_iff.mp hi).1
  have hi' : c.lockInd i = i := Nat.mod_eq_of_lt (Nat.lt_of_lt_of_le hlt m.winv.locks_le)
  refine unmigB_eq_false.mp (u i ?_) lk (hi'.symm ▸ hi)
  rw [(foldl_rehashLock_scal c false _ t).nlocks] at hlt
  rw [hi']
  exact List.mem_range'_1.mpr ⟨Nat.zero_le _, by omega⟩

structure MigratedAll (c : Cfg κ) (t t' : Table κ ν) : Prop extends Step c t t' where
  allmig : AllMig t'
  old : t'.old = none

/-- `rehash_with_workers`, the loop of `cuckoo_fast_double` -/
theorem migrateAll_spec (c : Cfg κ) (t : Table κ ν) (h : Inv c t) : MigratedAll c t (t.migrateAll c) := by
  obtain ⟨m, am⟩ := migrateAll_go_migr c t h.toW
  rw [migrateAll_eq]
  have hz : (Table.migrateAll.go c t.locks.size 0 t).nUnmig = 0 := am.nUnmig
  obtain ⟨w, live⟩ := m.winv.of_bookkeeping 0 (o := none) (.inr ⟨rfl, hz⟩)
  exact ⟨⟨w.toInv hz.symm, { m.same with live := fun sl => (live sl).trans (m.same.live sl) },
    ⟨m.keeps.hp, m.keeps.rc, m.keeps.mono, fun _ => am⟩⟩, am, rfl⟩

end Cuckoo.Model
