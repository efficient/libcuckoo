import Cuckoo.Proofs.Lock
import Cuckoo.Proofs.Ops
/-!
The sections of `Model/Conc.lean` as equations: what each of them is once its stripes are taken, case by case.
(`lockSec` is `lockSec_eq_lockL`, beside `lockStripes` in `Proofs/Lock.lean`.)
-/
namespace Cuckoo.Model.Conc
open Cuckoo Cuckoo.Model
variable {κ ν : Type}

theorem valid_iff {t : Table κ ν} {hpS rcS : Nat} : valid t hpS rcS = true ↔ t.rc = rcS ∧ t.hp = hpS := by
  unfold valid
  simp only [Bool.and_eq_true, beq_iff_eq]

/-- the displacement step of a section that has validated `hpS`: the hop `fr → to` if `to` is the alternate of `fr`
at a slot `< S`; for a path of depth 0 (`to = none`) nothing moves, and the slot must still be free -/
def lastMove (c : Cfg κ) (hpS : Nat) (t1 : Table κ ν) (fr : PathRec) : Option PathRec → Option (Table κ ν)
  | none => if t1.cur.occ c.S fr.bucket fr.slot then none else some t1
  | some to =>
    if to.bucket == Spec.altIndex hpS (Spec.partialKey fr.hash) fr.bucket && decide (to.slot < c.S) then hop c t1 fr to
    else none

theorem lastMove_hop {c : Cfg κ} {hpS : Nat} {fr to : PathRec}
    (halt : to.bucket = Spec.altIndex hpS (Spec.partialKey fr.hash) fr.bucket) (hts : to.slot < c.S) (t1 : Table κ ν) :
    lastMove c hpS t1 fr (some to) = hop c t1 fr to := by
  simp only [lastMove, ← halt, beq_self_eq_true, hts, decide_true, Bool.and_self, if_true]

theorem hopSec_eq (c : Cfg κ) (hpS rcS : Nat) (fr to : PathRec) (t : Table κ ν) :
    hopSec c hpS rcS fr to t =
      (if valid (t.lockTwo c fr.bucket to.bucket) hpS rcS then
         (lastMove c hpS (t.lockTwo c fr.bucket to.bucket) fr (some to)).getD (t.lockTwo c fr.bucket to.bucket)
       else t.lockTwo c fr.bucket to.bucket, none) := by
  unfold hopSec lastMove
  dsimp only
  generalize t.lockTwo c fr.bucket to.bucket = t1
  cases valid t1 hpS rcS
  · rfl
  · rw [Bool.true_and, if_pos rfl]
    split
    · cases hop c t1 fr to <;> rfl
    · rfl

def lastBuckets (c : Cfg κ) (hpS : Nat) (k : κ) : Option PathRec → List Nat
  | none => [c.i1 hpS k, c.i2 hpS k]
  | some to => [c.i1 hpS k, c.i2 hpS k, to.bucket]

theorem lastBuckets_mem (c : Cfg κ) (hpS : Nat) (k : κ) (to : Option PathRec) :
    c.i1 hpS k ∈ lastBuckets c hpS k to ∧ c.i2 hpS k ∈ lastBuckets c hpS k to ∧
    ∀ p, to = some p → p.bucket ∈ lastBuckets c hpS k to := by
  cases to <;> simp [lastBuckets]

/-- the last section goes on past its guard iff the snapshot is current and the record is a slot of one of the call's
buckets -/
theorem lastGuard_iff {c : Cfg κ} {t1 : Table κ ν} {hpS rcS : Nat} {k : κ} {fr : PathRec} :
    ¬ (!(valid t1 hpS rcS && (fr.bucket == c.i1 hpS k || fr.bucket == c.i2 hpS k) && decide (fr.slot < c.S))) = true ↔
      valid t1 hpS rcS = true ∧ (fr.bucket = c.i1 hpS k ∨ fr.bucket = c.i2 hpS k) ∧ fr.slot < c.S := by
  simp only [Bool.not_eq_true', Bool.not_eq_false, Bool.and_eq_true, Bool.or_eq_true, beq_iff_eq, decide_eq_true_eq,
    and_assoc]

variable [DecidableEq κ]

theorem finishInsert_free_false (c : Cfg κ) (t : Table κ ν) (k : κ) (v : ν) (me : Bool)
    (fn : Ctx → ν → FnOut ν) (b s : Nat) :
    finishInsert c t k v false me fn (.free b s) = (t.addTo c b s ⟨c.tag k, k, v⟩, .bool (.ok true) []) := rfl

theorem finishInsert_free_true (c : Cfg κ) (t : Table κ ν) (k : κ) (v : ν) (me : Bool)
    (fn : Ctx → ν → FnOut ν) (b s : Nat) :
    finishInsert c t k v true me fn (.free b s) =
      applyFn c (t.addTo c b s ⟨c.tag k, k, v⟩) b s (some .newlyInserted) me (fn .newlyInserted) true := rfl

theorem finishInsert_dup (c : Cfg κ) (t : Table κ ν) (k : κ) (v : ν) (ca me : Bool)
    (fn : Ctx → ν → FnOut ν) (b s : Nat) :
    finishInsert c t k v ca me fn (.dup b s) =
      applyFn c t b s (if ca then some .alreadyExisted else none) me (fn .alreadyExisted) false := rfl

section
variable (c : Cfg κ) (k : κ) (v : ν) (ca me : Bool) (fn : Ctx → ν → FnOut ν)

theorem insertTrySec_eq (t : Table κ ν) :
    insertTrySec c k v ca me fn t =
      match tryInsert c (t.lockTwo c (c.i1 t.hp k) (c.i2 t.hp k)).cur (c.i1 t.hp k) (c.i2 t.hp k) k with
      | .pos p =>
        ((finishInsert c (t.lockTwo c (c.i1 t.hp k) (c.i2 t.hp k)) k v ca me fn p).1,
         some (finishInsert c (t.lockTwo c (c.i1 t.hp k) (c.i2 t.hp k)) k v ca me fn p).2)
      | .needCuckoo => (t.lockTwo c (c.i1 t.hp k) (c.i2 t.hp k), none) := rfl

theorem insertTrySec_pos {t : Table κ ν} {p : InsPos}
    (h : tryInsert c (t.lockTwo c (c.i1 t.hp k) (c.i2 t.hp k)).cur (c.i1 t.hp k) (c.i2 t.hp k) k = .pos p) :
    insertTrySec c k v ca me fn t =
      ((finishInsert c (t.lockTwo c (c.i1 t.hp k) (c.i2 t.hp k)) k v ca me fn p).1,
       some (finishInsert c (t.lockTwo c (c.i1 t.hp k) (c.i2 t.hp k)) k v ca me fn p).2) := by
  rw [insertTrySec_eq, h]

theorem insertTrySec_needCuckoo {t : Table κ ν}
    (h : tryInsert c (t.lockTwo c (c.i1 t.hp k) (c.i2 t.hp k)).cur (c.i1 t.hp k) (c.i2 t.hp k) k = .needCuckoo) :
    insertTrySec c k v ca me fn t = (t.lockTwo c (c.i1 t.hp k) (c.i2 t.hp k), none) := by
  rw [insertTrySec_eq, h]

end

theorem insertLastSec_eq (c : Cfg κ) (hpS rcS : Nat) (k : κ) (v : ν) (ca me : Bool) (fn : Ctx → ν → FnOut ν)
    (fr : PathRec) (to : Option PathRec) (t : Table κ ν) :
    insertLastSec c hpS rcS k v ca me fn fr to t =
      if !(valid (lockSec (ν := ν) c (lastBuckets c hpS k to) t).1 hpS rcS &&
            (fr.bucket == c.i1 hpS k || fr.bucket == c.i2 hpS k) && decide (fr.slot < c.S))
      then ((lockSec (ν := ν) c (lastBuckets c hpS k to) t).1, none)
      else match lastMove c hpS (lockSec (ν := ν) c (lastBuckets c hpS k to) t).1 fr to with
        | none => ((lockSec (ν := ν) c (lastBuckets c hpS k to) t).1, none)
        | some t2 =>
          ((finishInsert c t2 k v ca me fn (recheckPos c t2.cur hpS k fr.bucket fr.slot)).1,
           some (finishInsert c t2 k v ca me fn (recheckPos c t2.cur hpS k fr.bucket fr.slot)).2) := by
  -- `insertLastSec` has `finishInsert` in both arms of the re-check
  have tail (t2 : Table κ ν) := apply_recheckPos
    (fun p => ((finishInsert c t2 k v ca me fn p).1, some (finishInsert c t2 k v ca me fn p).2))
    c t2.cur hpS k fr.bucket fr.slot
  simp only [tail]
  cases to <;> rfl

/-- `find_fn` / `update_fn` / `erase_fn` is `lock_two`, the lookup, and the functor tail of the insertions -/
theorem lookupSec_eq (c : Cfg κ) (ce : Bool) (k : κ) (fn : ν → FnOut ν) (t : Table κ ν) :
    lookupSec c ce k fn t =
      match cuckooFind c (t.lockTwo c (c.i1 t.hp k) (c.i2 t.hp k)).cur (c.i1 t.hp k) (c.i2 t.hp k) k with
      | none => (t.lockTwo c (c.i1 t.hp k) (c.i2 t.hp k), some (.bool (.ok false) []))
      | some (b, s) =>
        ((applyFn c (t.lockTwo c (c.i1 t.hp k) (c.i2 t.hp k)) b s none ce fn true).1,
         some (applyFn c (t.lockTwo c (c.i1 t.hp k) (c.i2 t.hp k)) b s none ce fn true).2) := by
  have hloc : t.locate c false k = (t.lockTwo c (c.i1 t.hp k) (c.i2 t.hp k),
      cuckooFind c (t.lockTwo c (c.i1 t.hp k) (c.i2 t.hp k)).cur (c.i1 t.hp k) (c.i2 t.hp k) k) := rfl
  unfold lookupSec
  generalize t.lockTwo c (c.i1 t.hp k) (c.i2 t.hp k) = t1 at hloc ⊢
  cases hf : cuckooFind c t1.cur (c.i1 t.hp k) (c.i2 t.hp k) k with
  | none => unfold Table.fnOp; rw [hloc, hf]
  | some p =>
    obtain ⟨b, s⟩ := p
    obtain ⟨_, sl, g, _⟩ := cuckooFind_some hf
    obtain ⟨e1, e2⟩ := fnOp_found (hloc.trans (by rw [hf])) g ce fn
    simp only [e1, e2]

theorem doubleSec_ok (c : Cfg κ) (fuel hp : Nat) (t t2 : Table κ ν) (a : Bool)
    (h : fastDouble c false true fuel t hp = (t2, .ok a)) : doubleSec c fuel hp t = (t2, none) := by
  unfold doubleSec; rw [h]

theorem doubleSec_err (c : Cfg κ) (fuel hp : Nat) (t t2 : Table κ ν) (e : Err)
    (h : fastDouble c false true fuel t hp = (t2, .err e)) :
    doubleSec c fuel hp t = (t2, some (.bool (.err e) [])) := by
  unfold doubleSec; rw [h]

end Cuckoo.Model.Conc
