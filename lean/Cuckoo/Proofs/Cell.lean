import Cuckoo.Proofs.Defs
/-!
Cells of the current bucket array.  `Frame`: only cells of `cur` and stripe counters change.  Overwriting one cell
(`Frame.cell`) keeps the invariant if a new element is well placed in a migrated bucket and its key occurs nowhere else,
and changes the live view at that position only.  The primitive mutations (`add_to_bucket`, `del_from_bucket`, value
update) are instances; a displacement hop is two of them: the element is taken out of its cell and put into the other.
-/
namespace Cuckoo.Model
open Cuckoo
variable {κ ν : Type}

theorem foldl_cnt_modify (l : List Lock) (i : Nat) (f : Lock → Lock) (d : Int) (acc : Int)
    (hf : ∀ x, (f x).cnt = x.cnt + d) (hi : i < l.length) :
    (l.modify i f).foldl (fun s x => s + x.cnt) acc = l.foldl (fun s x => s + x.cnt) acc + d := by
  induction l generalizing i acc with
  | nil => simp at hi
  | cons x xs ih =>
    cases i with
    | zero =>
      simp only [List.modify_zero_cons, List.foldl_cons, hf]
      rw [← Int.add_assoc]
      exact List.foldl_hom (· + d) fun a y => Int.add_right_comm a d y.cnt
    | succ i =>
      simp only [List.modify_succ_cons, List.foldl_cons]
      exact ih i _ (by simpa using hi)

theorem foldl_cnt_of_zero (l : List Lock) (h : ∀ x ∈ l, x.cnt = 0) (acc : Int) :
    l.foldl (fun s x => s + x.cnt) acc = acc := by
  induction l with
  | nil => rfl
  | cons x xs ih =>
    rw [List.foldl_cons, h x List.mem_cons_self, Int.add_zero]
    exact ih fun y hy => h y (List.mem_cons_of_mem _ hy)

theorem sumCnt_congr {t t' : Table κ ν} (h : t'.locks = t.locks) : t'.sumCnt = t.sumCnt := by
  unfold Table.sumCnt; rw [h]

theorem sumCnt_modify (t : Table κ ν) (ls : Array Lock) (l : Nat) (f : Lock → Lock)
    (hf : ∀ x, (f x).cnt = x.cnt) (h : ls = t.locks.modify l f) :
    ({ t with locks := ls } : Table κ ν).sumCnt = t.sumCnt := by
  subst h
  unfold Table.sumCnt
  simp only []
  rw [← Array.foldl_toList, ← Array.foldl_toList, Array.toList_modify]
  by_cases hl : l < t.locks.toList.length
  · rw [foldl_cnt_modify _ l f 0 0 (fun x => by rw [hf, Int.add_zero]) hl, Int.add_zero]
  · rw [List.modify_eq_self (Nat.le_of_not_lt hl)]

theorem bump_locks (c : Cfg κ) (t : Table κ ν) (b : Nat) (d : Int) :
    (t.bump c b d).locks = t.locks.modify (c.lockInd b) (fun x => { x with cnt := x.cnt + d }) := rfl

theorem sumCnt_bump (c : Cfg κ) (t : Table κ ν) (b : Nat) (d : Int) (hi : c.lockInd b < t.locks.size) :
    (t.bump c b d).sumCnt = t.sumCnt + d := by
  unfold Table.sumCnt
  rw [bump_locks, ← Array.foldl_toList, ← Array.foldl_toList, Array.toList_modify]
  exact foldl_cnt_modify _ _ _ d 0 (fun _ => rfl) (by simpa using hi)

theorem lockInd_lt_size {c : Cfg κ} {t : Table κ ν} (h : Inv c t) {b : Nat} (hb : b < 2 ^ t.hp) :
    c.lockInd b < t.locks.size := by
  obtain ⟨m, hm⟩ := h.M_pow
  have hM : 0 < c.M := hm ▸ Nat.two_pow_pos m
  exact Nat.lt_of_lt_of_le (Nat.lt_min.mpr ⟨Nat.lt_of_le_of_lt (Nat.mod_le _ _) hb, Nat.mod_lt _ hM⟩) h.locks_ge

/-- `t'` differs from `t` only in cells of `cur` and in stripe counters -/
structure Frame (t t' : Table κ ν) : Prop where
  hp : t'.cur.hp = t.cur.hp
  csize : t'.cur.cells.size = t.cur.cells.size
  old : t'.old = t.old
  nlocks : t'.locks.size = t.locks.size
  lmig : ∀ i : Nat, (t'.locks[i]?).map Lock.migrated = (t.locks[i]?).map Lock.migrated
  rem : t'.rem = t.rem
  rc : t'.rc = t.rc
  mhp : t'.mhp = t.mhp

theorem Frame.unmigB {t t' : Table κ ν} (f : Frame t t') (c : Cfg κ) (b : Nat) :
    t'.unmigB c b = t.unmigB c b :=
  unmigB_congr (f.lmig _)

theorem Frame.nUnmig {t t' : Table κ ν} (f : Frame t t') : t'.nUnmig = t.nUnmig := by
  unfold Table.nUnmig
  have e : t'.locks.toList.map Lock.migrated = t.locks.toList.map Lock.migrated := by
    apply List.ext_getElem?
    intro i
    simp only [List.getElem?_map, Array.getElem?_toList]
    exact f.lmig i
  have k : ∀ l : List Lock, (l.filter (fun l => !l.migrated)).length = (l.map Lock.migrated).countP (!·) := by
    intro l
    rw [List.countP_map, List.countP_eq_length_filter]
    rfl
  rw [k, k, e]

theorem Frame.at_old {t t' : Table κ ν} (f : Frame t t') (c : Cfg κ) (b s : Nat) :
    t'.at c (.old b s) = t.at c (.old b s) := by
  simp only [Table.at, f.old, f.unmigB]

theorem Frame.allmig {t t' : Table κ ν} (f : Frame t t') (h : AllMig t) : AllMig t' := fun i lk hlk => by
  have e := f.lmig i
  rw [hlk, Option.map_some, eq_comm, Option.map_eq_some_iff] at e
  obtain ⟨lk', h1, h2⟩ := e
  exact h2 ▸ h i lk' h1

theorem Frame.keeps {t t' : Table κ ν} (f : Frame t t') (c : Cfg κ) : Keeps c t t' :=
  ⟨f.hp, f.rc, fun b hb => by rw [f.unmigB]; exact hb, f.allmig⟩

theorem Frame.of_cur (t : Table κ ν) (st : Store κ ν) (hhp : st.hp = t.cur.hp)
    (hsz : st.cells.size = t.cur.cells.size) : Frame t { t with cur := st } :=
  ⟨hhp, hsz, rfl, rfl, fun _ => rfl, rfl, rfl, rfl⟩

theorem Frame.inv {c : Cfg κ} {t t' : Table κ ν} (f : Frame t t') (h : Inv c t)
    (place : ∀ b s sl, t'.cur.get c.S b s = some sl →
      sl.tag = c.tag sl.key ∧ (b = c.i1 t.hp sl.key ∨ b = c.i2 t.hp sl.key))
    (ue : ∀ b s, t.unmigB c b = true → t'.cur.get c.S b s = none)
    (uq : ∀ p p' sl sl', t'.at c p = some sl → t'.at c p' = some sl' → sl.key = sl'.key → p = p') :
    Inv c t' :=
  have hhp : t'.hp = t.hp := f.hp
  { S_pos := h.S_pos
    M_pow := h.M_pow
    cur_wf := ⟨by rw [f.csize, f.hp]; exact h.cur_wf.size, by rw [f.hp]; exact place⟩
    locks_pow := by rw [f.nlocks]; exact h.locks_pow
    locks_le := by rw [f.nlocks]; exact h.locks_le
    locks_ge := by rw [f.nlocks, hhp]; exact h.locks_ge
    rem_eq := by rw [f.rem, f.nUnmig]; exact h.rem_eq
    pending := by rw [f.rem, f.old, f.nlocks, hhp]; exact h.pending
    unmig_empty := by
      intro b s hb
      rw [f.unmigB] at hb
      exact ue b s hb
    uniq := uq
    limit := by rw [f.mhp, hhp]; exact h.limit }

theorem cell_lt {c : Cfg κ} {t : Table κ ν} (h : Inv c t) {b s : Nat} (hb : b < 2 ^ t.hp) (hs : s < c.S) :
    b * c.S + s < t.cur.cells.size := by
  rw [h.cur_wf.size]; exact flat_lt hb hs

/-- the shape shared by `addTo` (`nv = some sl`, `d = 1`) and `delFrom` (`nv = none`, `d = -1`), both by `rfl` -/
def Table.upd (c : Cfg κ) (t : Table κ ν) (b s : Nat) (nv : Option (Slot κ ν)) (d : Int) : Table κ ν :=
  ({ t with cur := t.cur.set c.S b s nv }).bump c b d

theorem upd_frame (c : Cfg κ) (t : Table κ ν) (b s : Nat) (nv) (d : Int) : Frame t (t.upd c b s nv d) := by
  unfold Table.upd Table.bump
  refine ⟨Store.set_hp .., Store.set_size .., rfl, Array.size_modify .., fun i => ?_, rfl, rfl, rfl⟩
  dsimp only
  rw [Array.getElem?_modify]
  split
  · cases t.locks[i]? <;> rfl
  · rfl

@[simp] theorem bump_rem (c : Cfg κ) (t : Table κ ν) (b : Nat) (d : Int) : (t.bump c b d).rem = t.rem := rfl
@[simp] theorem bump_old (c : Cfg κ) (t : Table κ ν) (b : Nat) (d : Int) : (t.bump c b d).old = t.old := rfl
@[simp] theorem addTo_rem (c : Cfg κ) (t : Table κ ν) (b s : Nat) (sl : Slot κ ν) : (t.addTo c b s sl).rem = t.rem := rfl
@[simp] theorem addTo_old (c : Cfg κ) (t : Table κ ν) (b s : Nat) (sl : Slot κ ν) : (t.addTo c b s sl).old = t.old := rfl
@[simp] theorem addTo_hp (c : Cfg κ) (t : Table κ ν) (b s : Nat) (sl : Slot κ ν) : (t.addTo c b s sl).hp = t.hp := rfl
@[simp] theorem delFrom_rem (c : Cfg κ) (t : Table κ ν) (b s : Nat) : (t.delFrom c b s).rem = t.rem := rfl
@[simp] theorem delFrom_old (c : Cfg κ) (t : Table κ ν) (b s : Nat) : (t.delFrom c b s).old = t.old := rfl
@[simp] theorem delFrom_hp (c : Cfg κ) (t : Table κ ν) (b s : Nat) : (t.delFrom c b s).hp = t.hp := rfl

theorem setVal_of_some {c : Cfg κ} {t : Table κ ν} {b s : Nat} {sl : Slot κ ν} (hg : t.cur.get c.S b s = some sl) (v : ν) :
    t.setVal c b s v = { t with cur := t.cur.set c.S b s (some { sl with val := v }) } := by
  unfold Table.setVal; rw [hg]

theorem setVal_of_none {c : Cfg κ} {t : Table κ ν} {b s : Nat} (hg : t.cur.get c.S b s = none) (v : ν) :
    t.setVal c b s v = t := by
  unfold Table.setVal; rw [hg]

@[simp] theorem setVal_hp (c : Cfg κ) (t : Table κ ν) (b s : Nat) (v : ν) : (t.setVal c b s v).hp = t.hp := by
  unfold Table.setVal; split <;> rfl

theorem setRem_zero (t : Table κ ν) : t.setRem 0 = { t with rem := 0, old := none } := rfl

theorem upd_get {c : Cfg κ} {t : Table κ ν} {b s : Nat} (nv) (d : Int) (hs : s < c.S)
    (hlt : b * c.S + s < t.cur.cells.size) (b' s' : Nat) :
    (t.upd c b s nv d).cur.get c.S b' s' = if b' = b ∧ s' = s then nv else t.cur.get c.S b' s' :=
  Store.get_set c.S t.cur b s b' s' nv hs hlt

theorem at_of_get {c : Cfg κ} {t t' : Table κ ν} {b s : Nat} {nv : Option (Slot κ ν)} (f : Frame t t')
    (hg : ∀ b' s', t'.cur.get c.S b' s' = if b' = b ∧ s' = s then nv else t.cur.get c.S b' s') (p : Loc) :
    t'.at c p = if p = .cur b s then nv else t.at c p := by
  cases p with
  | cur b' s' =>
    show t'.cur.get c.S b' s' = _
    rw [hg]
    simp only [Loc.cur.injEq]
    rfl
  | old b' s' =>
    rw [f.at_old]
    simp

theorem upd_sumCnt {c : Cfg κ} {t : Table κ ν} (h : Inv c t) {b : Nat} (s : Nat) (nv) (d : Int) (hb : b < 2 ^ t.hp) :
    (t.upd c b s nv d).sumCnt = t.sumCnt + d :=
  sumCnt_bump c _ b d (lockInd_lt_size h hb)

theorem live_of_at {c : Cfg κ} {t t' : Table κ ν} {q : Loc} {nv : Option (Slot κ ν)}
    (hat : ∀ p, t'.at c p = if p = q then nv else t.at c p) (x : Slot κ ν) :
    t'.Live c x ↔ ((∃ p, p ≠ q ∧ t.at c p = some x) ∨ nv = some x) := by
  constructor
  · rintro ⟨p, hp⟩
    rw [hat] at hp
    split at hp
    · exact .inr hp
    · exact .inl ⟨p, ‹_›, hp⟩
  · rintro (⟨p, hne, hp⟩ | hnv)
    · exact ⟨p, by rw [hat, if_neg hne]; exact hp⟩
    · exact ⟨q, by rw [hat, if_pos rfl]; exact hnv⟩

theorem live_elsewhere_of_some {c : Cfg κ} {t : Table κ ν} (h : Inv c t) {q : Loc} {sl : Slot κ ν}
    (hq : t.at c q = some sl) (x : Slot κ ν) :
    (∃ p, p ≠ q ∧ t.at c p = some x) ↔ (t.Live c x ∧ x.key ≠ sl.key) := by
  constructor
  · rintro ⟨p, hne, hp⟩
    exact ⟨⟨p, hp⟩, fun hk => hne (h.uniq p q x sl hp hq hk)⟩
  · rintro ⟨⟨p, hp⟩, hk⟩
    refine ⟨p, ?_, hp⟩
    intro e
    subst e
    rw [hq] at hp
    cases hp
    exact hk rfl

theorem live_elsewhere_of_none {c : Cfg κ} {t : Table κ ν} {q : Loc}
    (hq : t.at c q = none) (x : Slot κ ν) :
    (∃ p, p ≠ q ∧ t.at c p = some x) ↔ t.Live c x := by
  constructor
  · rintro ⟨p, _, hp⟩
    exact ⟨p, hp⟩
  · rintro ⟨p, hp⟩
    refine ⟨p, ?_, hp⟩
    intro e
    subst e
    rw [hq] at hp
    cases hp

theorem uniq_of_at {c : Cfg κ} {t t' : Table κ ν} (h : Inv c t) {q : Loc} {nv : Option (Slot κ ν)}
    (hat : ∀ p, t'.at c p = if p = q then nv else t.at c p)
    (hnew : ∀ x, nv = some x → ∀ p sl, p ≠ q → t.at c p = some sl → sl.key ≠ x.key) :
    ∀ p p' sl sl', t'.at c p = some sl → t'.at c p' = some sl' → sl.key = sl'.key → p = p' := by
  intro p p' sl sl' hp hp' hk
  rw [hat] at hp hp'
  by_cases e : p = q <;> by_cases e' : p' = q
  · rw [e, e']
  · rw [if_pos e] at hp; rw [if_neg e'] at hp'
    exact absurd hk.symm (hnew sl hp p' sl' e' hp')
  · rw [if_neg e] at hp; rw [if_pos e'] at hp'
    exact absurd hk (hnew sl' hp' p sl e hp)
  · rw [if_neg e] at hp; rw [if_neg e'] at hp'
    exact h.uniq p p' sl sl' hp hp' hk

theorem Frame.cell {c : Cfg κ} {t T : Table κ ν} {b s : Nat} {nv : Option (Slot κ ν)} (F : Frame t T) (h : Inv c t)
    (hg : ∀ b' s', T.cur.get c.S b' s' = if b' = b ∧ s' = s then nv else t.cur.get c.S b' s')
    (hnv : ∀ x, nv = some x → x.tag = c.tag x.key ∧ (b = c.i1 t.hp x.key ∨ b = c.i2 t.hp x.key) ∧
      t.unmigB c b = false ∧ ∀ p y, p ≠ .cur b s → t.at c p = some y → y.key ≠ x.key) :
    Inv c T ∧ ∀ x, T.Live c x ↔ ((∃ p, p ≠ .cur b s ∧ t.at c p = some x) ∨ nv = some x) := by
  have hat := at_of_get F hg
  refine ⟨F.inv h ?_ ?_ (uniq_of_at h hat fun x hx => (hnv x hx).2.2.2), live_of_at hat⟩
  · intro b' s' x hx
    rw [hg] at hx
    split at hx
    · next e => rw [e.1]; exact ⟨(hnv x hx).1, (hnv x hx).2.1⟩
    · exact h.cur_wf.place b' s' x hx
  · intro b' s' hu
    rw [hg]
    split
    · next e =>
      cases nv with
      | none => rfl
      | some x => rw [e.1, (hnv x rfl).2.2.1] at hu; cases hu
    · exact h.unmig_empty b' s' hu

theorem Frame.move {c : Cfg κ} {t T : Table κ ν} {b s b' s' : Nat} {sl : Slot κ ν} (F : Frame t T) (h : Inv c t)
    (hfr : t.cur.get c.S b s = some sl) (hto : t.cur.get c.S b' s' = none)
    (hg : ∀ x y, T.cur.get c.S x y =
      if x = b ∧ y = s then none else if x = b' ∧ y = s' then some sl else t.cur.get c.S x y)
    (hb' : b' = c.i1 t.hp sl.key ∨ b' = c.i2 t.hp sl.key) (hmig : t.unmigB c b' = false) :
    Inv c T ∧ ∀ x, T.Live c x ↔ t.Live c x := by
  obtain ⟨hs, hlt⟩ := Store.get_some_lt hfr
  have hne : ¬ (b' = b ∧ s' = s) := fun e => by rw [e.1, e.2, hfr] at hto; cases hto
  -- the table in between, with `(b, s)` emptied: out first, then in, so that the key is never held twice and
  -- `Frame.cell` applies to each half (`hop` itself writes in the other order)
  obtain ⟨t1, F1, F2, hg1⟩ : ∃ t1 : Table κ ν, Frame t t1 ∧ Frame t1 T ∧
      ∀ x y, t1.cur.get c.S x y = if x = b ∧ y = s then none else t.cur.get c.S x y :=
    ⟨{ t with cur := t.cur.set c.S b s none }, .of_cur t _ rfl (Store.set_size ..),
      ⟨F.hp, F.csize.trans (Store.set_size ..).symm, F.old, F.nlocks, F.lmig, F.rem, F.rc, F.mhp⟩,
      fun x y => Store.get_set _ _ _ _ _ _ _ hs hlt⟩
  have hg2 : ∀ x y, T.cur.get c.S x y = if x = b' ∧ y = s' then some sl else t1.cur.get c.S x y := by
    intro x y
    rw [hg, hg1]
    by_cases e : x = b ∧ y = s
    · rw [if_pos e, if_pos e, if_neg (fun e' => hne ⟨e'.1.symm.trans e.1, e'.2.symm.trans e.2⟩)]
    · rw [if_neg e, if_neg e]
  obtain ⟨i1, l1⟩ := F1.cell h hg1 (fun _ e => nomatch e)
  have l1' : ∀ x, t1.Live c x ↔ (t.Live c x ∧ x.key ≠ sl.key) := fun x => by
    rw [l1, live_elsewhere_of_some h (show t.at c (.cur b s) = some sl from hfr)]
    exact or_iff_left (fun e => nomatch e)
  obtain ⟨i2, l2⟩ := F2.cell i1 hg2 (fun x e => by
    cases e
    exact ⟨(h.cur_wf.place _ _ _ hfr).1, by rw [(F1.keeps c).hp]; exact hb', by rw [F1.unmigB]; exact hmig,
      fun p y _ hp hk => ((l1' y).mp ⟨p, hp⟩).2 hk⟩)
  refine ⟨i2, fun x => ?_⟩
  have hq1 : t1.at c (.cur b' s') = none := by
    show t1.cur.get c.S b' s' = none
    rw [hg1, if_neg hne]; exact hto
  rw [l2, live_elsewhere_of_none hq1, l1', Option.some_inj]
  constructor
  · rintro (⟨hx, _⟩ | rfl)
    · exact hx
    · exact ⟨.cur b s, hfr⟩
  · rintro ⟨p, hp⟩
    by_cases hk : x.key = sl.key
    · have := h.uniq p (.cur b s) x sl hp hfr hk
      subst this
      exact .inr (Option.some_inj.mp (hfr.symm.trans hp))
    · exact .inl ⟨⟨p, hp⟩, hk⟩

theorem addTo_spec (c : Cfg κ) (t : Table κ ν) (b s : Nat) (k : κ) (v : ν) (h : Inv c t)
    (hins : InsOK c t k (.free b s)) :
    Inv c (t.addTo c b s ⟨c.tag k, k, v⟩) ∧
    (∀ sl, (t.addTo c b s ⟨c.tag k, k, v⟩).Live c sl ↔ (t.Live c sl ∨ sl = ⟨c.tag k, k, v⟩)) ∧
    (t.addTo c b s ⟨c.tag k, k, v⟩).sumCnt = t.sumCnt + 1 ∧
    Keeps c t (t.addTo c b s ⟨c.tag k, k, v⟩) := by
  obtain ⟨hb, hs, hempty, hmig, hfresh⟩ := hins
  have hblt : b < 2 ^ t.hp := cand_lt hb
  have fr := upd_frame c t b s (some ⟨c.tag k, k, v⟩) 1
  obtain ⟨hi, hl⟩ := fr.cell h (upd_get _ 1 hs (cell_lt h hblt hs)) (fun x hx => by
    cases hx
    exact ⟨rfl, hb, hmig, fun p y _ hp hk => hfresh y.tag y.val ⟨p, by rw [hp, ← show y.key = k from hk]⟩⟩)
  refine ⟨hi, fun sl => ?_, upd_sumCnt h s _ 1 hblt, fr.keeps c⟩
  show (t.upd c b s _ 1).Live c sl ↔ _
  rw [hl, live_elsewhere_of_none (show t.at c (.cur b s) = none from hempty), Option.some_inj, eq_comm]

theorem delFrom_spec (c : Cfg κ) (t : Table κ ν) (b s : Nat) (sl : Slot κ ν) (h : Inv c t)
    (hget : t.cur.get c.S b s = some sl) :
    Inv c (t.delFrom c b s) ∧
    (∀ x, (t.delFrom c b s).Live c x ↔ (t.Live c x ∧ x.key ≠ sl.key)) ∧
    (t.delFrom c b s).sumCnt = t.sumCnt - 1 ∧
    Keeps c t (t.delFrom c b s) := by
  obtain ⟨hs, hlt⟩ := Store.get_some_lt hget
  have fr := upd_frame c t b s none (-1)
  obtain ⟨hi, hl⟩ := fr.cell h (upd_get none (-1) hs hlt) (fun _ hx => nomatch hx)
  refine ⟨hi, fun x => ?_, upd_sumCnt h s _ (-1) (Store.get_some_bucket_lt h.cur_wf.size hget), fr.keeps c⟩
  show (t.upd c b s none (-1)).Live c x ↔ _
  rw [hl, live_elsewhere_of_some h (show t.at c (.cur b s) = some sl from hget)]
  exact or_iff_left (fun e => nomatch e)

theorem setVal_spec (c : Cfg κ) (t : Table κ ν) (b s : Nat) (sl : Slot κ ν) (v : ν) (h : Inv c t)
    (hget : t.cur.get c.S b s = some sl) :
    Inv c (t.setVal c b s v) ∧
    (∀ x, (t.setVal c b s v).Live c x ↔ ((t.Live c x ∧ x.key ≠ sl.key) ∨ x = { sl with val := v })) ∧
    (t.setVal c b s v).sumCnt = t.sumCnt ∧
    (t.setVal c b s v).cur.get c.S b s = some { sl with val := v } ∧
    Keeps c t (t.setVal c b s v) := by
  obtain ⟨hs, hlt⟩ := Store.get_some_lt hget
  rw [setVal_of_some hget]
  have fr := Frame.of_cur t (t.cur.set c.S b s (some { sl with val := v })) (Store.set_hp ..) (Store.set_size ..)
  have hg : ∀ b' s', ({ t with cur := t.cur.set c.S b s (some { sl with val := v }) } : Table κ ν).cur.get c.S b' s' =
      if b' = b ∧ s' = s then some { sl with val := v } else t.cur.get c.S b' s' :=
    fun b' s' => Store.get_set c.S t.cur b s b' s' _ hs hlt
  have hq : t.at c (.cur b s) = some sl := hget
  obtain ⟨hi, hl⟩ := fr.cell h hg (fun x hx => by
    cases hx
    have hu : t.unmigB c b = false := by
      cases hu : t.unmigB c b with
      | false => rfl
      | true => rw [h.unmig_empty b s hu] at hget; cases hget
    exact ⟨(h.cur_wf.place b s sl hget).1, (h.cur_wf.place b s sl hget).2, hu,
      fun p y hne hp hk => hne (h.uniq p _ y sl hp hq hk)⟩)
  refine ⟨hi, fun x => ?_, rfl, by rw [hg, if_pos ⟨rfl, rfl⟩], fr.keeps c⟩
  rw [hl, live_elsewhere_of_some h hq, Option.some_inj, eq_comm]

theorem hop_shape (c : Cfg κ) (t t' : Table κ ν) (fr to : PathRec) (hhop : hop c t fr to = some t') :
    ∃ sl, t.cur.get c.S to.bucket to.slot = none ∧ t.cur.get c.S fr.bucket fr.slot = some sl ∧
      c.hash sl.key = fr.hash ∧
      t' = { t with cur := (t.cur.set c.S to.bucket to.slot (some sl)).set c.S fr.bucket fr.slot none } := by
  unfold hop at hhop
  split at hhop
  · next sl hto hfr =>
    split at hhop
    · next hh =>
      cases hhop
      exact ⟨sl, hto, hfr, hh, rfl⟩
    · cases hhop
  · cases hhop

theorem hop_get {c : Cfg κ} {t : Table κ ν} {fr to : PathRec} {sl : Slot κ ν}
    (hfr : t.cur.get c.S fr.bucket fr.slot = some sl) (hslot : to.slot < c.S)
    (htlt : to.bucket * c.S + to.slot < t.cur.cells.size) (x y : Nat) :
    ((t.cur.set c.S to.bucket to.slot (some sl)).set c.S fr.bucket fr.slot none).get c.S x y =
      if x = fr.bucket ∧ y = fr.slot then none
      else if x = to.bucket ∧ y = to.slot then some sl else t.cur.get c.S x y := by
  obtain ⟨hfs, hflt⟩ := Store.get_some_lt hfr
  rw [Store.get_set _ _ _ _ _ _ _ hfs ((Store.set_size ..).symm ▸ hflt), Store.get_set _ _ _ _ _ _ _ hslot htlt]

theorem hop_step (c : Cfg κ) (t t' : Table κ ν) (fr to : PathRec) (h : Inv c t)
    (hhop : hop c t fr to = some t')
    (halt : to.bucket = Spec.altIndex t.hp (Spec.partialKey fr.hash) fr.bucket)
    (hslot : to.slot < c.S) (hmig : t.unmigB c to.bucket = false) :
    Step c t t' ∧ t'.cur.get c.S fr.bucket fr.slot = none := by
  obtain ⟨sl, hto, hfr, hh, rfl⟩ := hop_shape c t t' fr to hhop
  have hplace : to.bucket = c.i1 t.hp sl.key ∨ to.bucket = c.i2 t.hp sl.key := by
    rw [halt, show Spec.partialKey fr.hash = c.tag sl.key by rw [← hh]; rfl]
    rcases (h.cur_wf.place _ _ _ hfr).2 with e | e
    · right; rw [e]; rfl
    · left; rw [e]
      exact (Spec.altIndex_invol _ _ _).trans (Nat.mod_eq_of_lt (Spec.indexHash_lt _ _))
  have F := Frame.of_cur t ((t.cur.set c.S to.bucket to.slot (some sl)).set c.S fr.bucket fr.slot none)
    (Store.set_hp ..) (by rw [Store.set_size, Store.set_size])
  have hg := hop_get hfr hslot (cell_lt h (halt ▸ Spec.altIndex_lt _ _ _) hslot)
  obtain ⟨hi, hl⟩ := F.move h hfr hto hg hplace hmig
  exact ⟨⟨hi, ⟨hl, rfl, rfl, rfl, rfl⟩, F.keeps c⟩, by rw [hg, if_pos ⟨rfl, rfl⟩]⟩

/-- a validated hop moves one element to its alternate bucket: nothing observable changes -/
theorem hop_spec (c : Cfg κ) (t t' : Table κ ν) (fr to : PathRec) (h : Inv c t)
    (hhop : hop c t fr to = some t')
    (halt : to.bucket = Spec.altIndex t.hp (Spec.partialKey fr.hash) fr.bucket)
    (hslot : to.slot < c.S) (hmig : t.unmigB c to.bucket = false) :
    Inv c t' ∧ Same c t t' ∧ Keeps c t t' ∧ t'.cur.get c.S fr.bucket fr.slot = none ∧
    t'.locks = t.locks ∧ t'.old = t.old := by
  obtain ⟨st, hg⟩ := hop_step c t t' fr to h hhop halt hslot hmig
  obtain ⟨sl, _, _, _, rfl⟩ := hop_shape c t t' fr to hhop
  exact ⟨st.inv, st.same, st.keeps, hg, rfl, rfl⟩

/-- a failed validation changes nothing (trivially: `hop` returns `none`) -/
theorem hop_none_or_some (c : Cfg κ) (t : Table κ ν) (fr to : PathRec) :
    hop c t fr to = none ∨ ∃ t', hop c t fr to = some t' := by
  cases h : hop c t fr to <;> simp

end Cuckoo.Model
