import Cuckoo.Proofs.Sched.Attempt
/-!
The insertion loop as a run of sections: the retry loop of `run_cuckoo`, the doubling and the restart of the insertion
(`cuckoo_sched`, `ins_sched`); all their sections are legitimate sections of the call (`insSched_all`).
-/
namespace Cuckoo.Model.SchedA
open Cuckoo Cuckoo.Model Cuckoo.Model.Conc Cuckoo.Model.Sched Cuckoo.Props.C01Conc
variable {κ ν : Type} [DecidableEq κ]

section
variable (c : Cfg κ) (k : κ) (v : ν) (ca me : Bool) (fn : Ctx → ν → FnOut ν)

/-- what `insertLoop` does with the outcome of `run_cuckoo` -/
def afterCuckoo (fuel hp : Nat) (r : Table κ ν × CuckooOut) : Table κ ν × Res InsPos :=
  match r with
  | (t, .ok b s) =>
    match cuckooFind c t.cur (c.i1 hp k) (c.i2 hp k) k with
    | some (b', s') => (t, .ok (.dup b' s'))
    | none => (t, .ok (.free b s))
  | (t, .fuel) => (t, .err .fuel)
  | (t, .full) =>
    match fastDouble c false true fuel t hp with
    | (t, .err e) => (t, .err e)
    | (t, .ok _) => insertLoop c false fuel t k

/-- a successful `run_cuckoo`: re-check, `add_to_bucket` and functor are the tail of the last section -/
theorem fin_afterCuckoo_ok (fuel hp : Nat) (t : Table κ ν) (p0 : PathRec) :
    fin c k v ca me fn (afterCuckoo c k fuel hp (t, .ok p0.bucket p0.slot)) = tailOf c k v ca me fn hp t p0 := by
  unfold afterCuckoo tailOf fin
  simp only
  cases cuckooFind c t.cur (c.i1 hp k) (c.i2 hp k) k <;> rfl

theorem insertLoop_succ (fuel : Nat) (t : Table κ ν) :
    insertLoop c false (fuel + 1) t k =
      match tryInsert c (t.lockTwo c (c.i1 t.hp k) (c.i2 t.hp k)).cur (c.i1 t.hp k) (c.i2 t.hp k) k with
      | .pos p => (t.lockTwo c (c.i1 t.hp k) (c.i2 t.hp k), .ok p)
      | .needCuckoo =>
        afterCuckoo c k fuel t.hp (runCuckoo c false (t.lockTwo c (c.i1 t.hp k) (c.i2 t.hp k)) (c.i1 t.hp k) (c.i2 t.hp k)) := by
  rw [insertLoop.eq_2]
  simp only [lockTwoM_false]
  cases tryInsert c (t.lockTwo c (c.i1 t.hp k) (c.i2 t.hp k)).cur (c.i1 t.hp k) (c.i2 t.hp k) k with
  | pos p => rfl
  | needCuckoo =>
    simp only
    rcases runCuckoo c false (t.lockTwo c (c.i1 t.hp k) (c.i2 t.hp k)) (c.i1 t.hp k) (c.i2 t.hp k) with ⟨t2, _ | _ | _⟩
    · rfl
    · rfl
    · rfl

theorem uprase_res_fuel (t : Table κ ν) (hne : (t.uprase c false k v ca me fn).2.1.res ≠ .err .fuel) :
    (insertLoop c false (c.fuel t.cur.cells.size) t k).2 ≠ .err .fuel :=
  fun h => hne (by rw [uprase_err c false t k v ca me fn .fuel h])

/-- the attempts of `run_cuckoo`, then either the final section, or the doubling and the restart -/
theorem cuckoo_sched (hp rc dfuel : Nat) (restart : Table κ ν → List (Section κ ν))
    (hrestart : ∀ t2, (insertLoop c false dfuel t2 k).2 ≠ .err .fuel →
      Done t2 (restart t2) (fin c k v ca me fn (insertLoop c false dfuel t2 k))) :
    ∀ (fuel : Nat) (t : Table κ ν), Cur hp rc t →
      (afterCuckoo c k dfuel hp (runCuckoo.go c false (c.i1 hp k) (c.i2 hp k) hp fuel t)).2 ≠ .err .fuel →
      Done t (cuckooSched c k v ca me fn hp rc dfuel restart fuel t)
        (fin c k v ca me fn (afterCuckoo c k dfuel hp (runCuckoo.go c false (c.i1 hp k) (c.i2 hp k) hp fuel t))) := by
  intro fuel
  induction fuel with
  | zero =>
    intro t _ hne
    exact absurd rfl hne
  | succ n ih =>
    intro t hc hne
    have hss := slotSearch_run c hp t (c.i1 hp k) (c.i2 hp k)
    have hpos := slotSearch_some_pos c false hp t (c.i1 hp k) (c.i2 hp k)
    simp only [runCuckoo.go] at hne ⊢
    simp only [cuckooSched]
    generalize slotSearch c false hp t (c.i1 hp k) (c.i2 hp k) = ss at hss hpos hne ⊢
    obtain ⟨t1, o⟩ := ss
    simp only at hss hpos
    have hc1 := hss.cur hc
    refine hss.quiet.done ?_
    cases o with
    | none =>
      simp only [afterCuckoo] at hne ⊢
      rcases hfd : fastDouble c false true dfuel t1 hp with ⟨t2, a | e⟩
      · rw [hfd] at hne
        simp only at hne ⊢
        exact Done.cons (doubleSec_ok c dfuel hp t1 t2 a hfd) (hrestart t2 hne)
      · simp only
        exact Done.single (doubleSec_err c dfuel hp t1 t2 e hfd)
    | some x =>
      have hbr := buildPath_run c hp t1 (c.i1 hp k) (c.i2 hp k) x
      have hbp := buildPath_path c false hp t1 (c.i1 hp k) (c.i2 hp k) x (hpos x rfl)
      simp only at hne ⊢
      refine hbr.quiet.done ?_
      generalize buildPath c false hp t1 (c.i1 hp k) (c.i2 hp k) x = bp at hbr hbp hne ⊢
      obtain ⟨t2, path⟩ := bp
      simp only at hbr hbp hne ⊢
      have hpm := pathMove_sched c k v ca me fn hp rc t2 path (hbr.cur hc1) hbp.1 hbp.2
      generalize pathMove c false t2 (c.i1 hp k) (c.i2 hp k) path = pm at hpm hne ⊢
      obtain ⟨t3, _ | _⟩ := pm
      · simp only at hne ⊢
        exact hpm.2.done (ih t3 hpm.1 hne)
      · simp only [List.append_nil] at hne ⊢
        cases hph : path.head? with
        | none =>
          rw [hph] at hne
          exact absurd rfl hne
        | some p0 =>
          simp only
          rw [fin_afterCuckoo_ok]
          exact hpm p0 hph

theorem ins_sched : ∀ (fuel : Nat) (t : Table κ ν), (insertLoop c false fuel t k).2 ≠ .err .fuel →
    Done t (insSched c k v ca me fn fuel t) (fin c k v ca me fn (insertLoop c false fuel t k)) := by
  intro fuel
  induction fuel with
  | zero =>
    intro t hne
    rw [insertLoop.eq_1] at hne
    exact absurd rfl hne
  | succ n ih =>
    intro t hne
    rw [insertLoop_succ] at hne ⊢
    simp only [insSched]
    have hc : Cur t.hp t.rc (t.lockTwo c (c.i1 t.hp k) (c.i2 t.hp k)) := Cur.lockTwo ⟨rfl, rfl⟩ c _ _
    cases htry : tryInsert c (t.lockTwo c (c.i1 t.hp k) (c.i2 t.hp k)).cur (c.i1 t.hp k) (c.i2 t.hp k) k with
    | pos p =>
      exact Done.single (insertTrySec_pos c k v ca me fn htry)
    | needCuckoo =>
      rw [htry] at hne
      simp only at hne ⊢
      refine Done.cons (insertTrySec_needCuckoo c k v ca me fn htry) ?_
      have hrun : runCuckoo c false (t.lockTwo c (c.i1 t.hp k) (c.i2 t.hp k)) (c.i1 t.hp k) (c.i2 t.hp k) =
          runCuckoo.go c false (c.i1 t.hp k) (c.i2 t.hp k) t.hp 64 (t.lockTwo c (c.i1 t.hp k) (c.i2 t.hp k)) := by
        unfold runCuckoo
        rw [hc.1]
      rw [hrun] at hne ⊢
      exact cuckoo_sched c k v ca me fn t.hp t.rc n (insSched c k v ca me fn n) ih 64 _ hc hne

theorem cuckooSched_all (hp rc dfuel : Nat) (restart : Table κ ν → List (Section κ ν))
    (hrestart : ∀ t2, AllSec c (.uprase k v ca me fn) (restart t2)) (fuel : Nat) (t : Table κ ν) :
    AllSec c (.uprase k v ca me fn) (cuckooSched c k v ca me fn hp rc dfuel restart fuel t) := by
  fun_induction cuckooSched c k v ca me fn hp rc dfuel restart fuel t with
  | case1 => exact .nil c _
  | case2 fuel t ih =>
    refine .append ((slotSearch_run c hp t _ _).allSec _) ?_
    split
    · refine .cons (doubleSec_sec c k v ca me fn dfuel hp) ?_
      split
      · exact hrestart _
      · exact .nil c _
    · refine .append ((buildPath_run c hp _ _ _ _).allSec _) (.append (pathMoveSched_all c k v ca me fn hp rc _ _) ?_)
      split
      · exact .nil c _
      · exact ih _

theorem insSched_all : ∀ (fuel : Nat) (t : Table κ ν),
    AllSec c (.uprase k v ca me fn) (insSched c k v ca me fn fuel t) := by
  intro fuel
  induction fuel with
  | zero => intro t; exact AllSec.nil c _
  | succ n ih =>
    intro t
    simp only [insSched]
    refine AllSec.cons (insertTrySec_sec c k v ca me fn) ?_
    cases tryInsert c (t.lockTwo c (c.i1 t.hp k) (c.i2 t.hp k)).cur (c.i1 t.hp k) (c.i2 t.hp k) k with
    | pos p => exact AllSec.nil c _
    | needCuckoo => exact cuckooSched_all c k v ca me fn _ _ _ _ ih _ _

end

end Cuckoo.Model.SchedA
