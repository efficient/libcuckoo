import Cuckoo.Model.Sched
import Cuckoo.Props.C01Conc
/-!
Runs of lists of sections (`Conc.exec`): silent runs (`Quiet`), runs whose last section answers (`Done`), a snapshot
that stays current (`Cur`: lazy migration and hops change neither the hashpower nor the resize counter, on any table),
lists of legitimate sections of one call (`AllSec`) as schedules of `C01Conc.Ev`.
-/
namespace Cuckoo.Model.SchedA
open Cuckoo Cuckoo.Model Cuckoo.Model.Conc Cuckoo.Model.Sched Cuckoo.Props.C01Conc
variable {κ ν : Type}

theorem exec_append (t : Table κ ν) (l1 l2 : List (Section κ ν)) :
    exec t (l1 ++ l2) = ((exec (exec t l1).1 l2).1, (exec t l1).2 ++ (exec (exec t l1).1 l2).2) := by
  induction l1 generalizing t with
  | nil => rfl
  | cons f fs ih =>
    simp only [List.cons_append, exec, ih, List.cons_append]

theorem exec_length (t : Table κ ν) (l : List (Section κ ν)) : (exec t l).2.length = l.length := by
  induction l generalizing t with
  | nil => rfl
  | cons f fs ih => simp only [exec, List.length_cons, ih]

/-- a run of internal sections only, ending in `t'` -/
def Quiet (t : Table κ ν) (l : List (Section κ ν)) (t' : Table κ ν) : Prop :=
  ∃ n, exec t l = (t', List.replicate n none)

/-- a run whose last section, and only that one, answers -/
def Done (t : Table κ ν) (l : List (Section κ ν)) (r : Table κ ν × Resp ν) : Prop :=
  ∃ n, exec t l = (r.1, List.replicate n none ++ [some r.2])

theorem Quiet.nil (t : Table κ ν) : Quiet t [] t := ⟨0, rfl⟩

theorem Quiet.single {t t1 : Table κ ν} {f : Section κ ν} (hf : f t = (t1, none)) : Quiet t [f] t1 :=
  ⟨1, by simp only [exec, hf, List.replicate]⟩

theorem Quiet.append {t t1 t2 : Table κ ν} {l1 l2 : List (Section κ ν)} (h1 : Quiet t l1 t1) (h2 : Quiet t1 l2 t2) :
    Quiet t (l1 ++ l2) t2 := by
  obtain ⟨n, hn⟩ := h1
  obtain ⟨m, hm⟩ := h2
  refine ⟨n + m, ?_⟩
  rw [exec_append, hn]
  simp only [hm, List.replicate_append_replicate]

theorem Quiet.cons {t t1 t' : Table κ ν} {f : Section κ ν} {l : List (Section κ ν)} (hf : f t = (t1, none))
    (h : Quiet t1 l t') : Quiet t (f :: l) t' :=
  (Quiet.single hf).append h

theorem Done.single {t t' : Table κ ν} {f : Section κ ν} {r : Resp ν} (hf : f t = (t', some r)) :
    Done t [f] (t', r) := by
  refine ⟨0, ?_⟩
  simp only [exec, hf, List.replicate_zero, List.nil_append]

theorem Quiet.done {t t1 : Table κ ν} {l1 l2 : List (Section κ ν)} {r : Table κ ν × Resp ν}
    (h1 : Quiet t l1 t1) (h2 : Done t1 l2 r) : Done t (l1 ++ l2) r := by
  obtain ⟨n, hn⟩ := h1
  obtain ⟨m, hm⟩ := h2
  refine ⟨n + m, ?_⟩
  rw [exec_append, hn]
  simp only [hm, ← List.append_assoc, List.replicate_append_replicate]

theorem Done.cons {t t1 : Table κ ν} {f : Section κ ν} {l : List (Section κ ν)} {r : Table κ ν × Resp ν}
    (hf : f t = (t1, none)) (h : Done t1 l r) : Done t (f :: l) r :=
  (Quiet.single hf).done h

theorem Quiet.eq {t t' : Table κ ν} {l : List (Section κ ν)} (h : Quiet t l t') :
    exec t l = (t', List.replicate l.length none) := by
  obtain ⟨n, hn⟩ := h
  have hl : l.length = n := by rw [← exec_length t l, hn, List.length_replicate]
  rw [hl]
  exact hn

theorem Done.length {t : Table κ ν} {l : List (Section κ ν)} {r : Table κ ν × Resp ν} (h : Done t l r) :
    ∃ n, l.length = n + 1 ∧ exec t l = (r.1, List.replicate n none ++ [some r.2]) := by
  obtain ⟨n, hn⟩ := h
  refine ⟨n, ?_, hn⟩
  rw [← exec_length t l, hn, List.length_append, List.length_replicate, List.length_singleton]

theorem Done.eq {t : Table κ ν} {l : List (Section κ ν)} {r : Table κ ν × Resp ν} (h : Done t l r) :
    exec t l = (r.1, List.replicate (l.length - 1) none ++ [some r.2]) := by
  obtain ⟨n, hl, hn⟩ := h.length
  rw [hl]
  exact hn

/-- the snapshot `(hp, rc)` is current in `t` -/
def Cur (hp rc : Nat) (t : Table κ ν) : Prop := t.hp = hp ∧ t.rc = rc

theorem Cur.of_scal {hp rc : Nat} {t t' : Table κ ν} (h : Cur hp rc t) (s : Scal t t') : Cur hp rc t' :=
  ⟨s.hp.trans h.1, s.rc.trans h.2⟩

theorem Cur.rehashLock {hp rc : Nat} {t : Table κ ν} (h : Cur hp rc t) (c : Cfg κ) (l : Nat) (z : Bool) :
    Cur hp rc (t.rehashLock c l z) :=
  h.of_scal (rehashLock_scal c t l z)

theorem Cur.lockL {hp rc : Nat} (c : Cfg κ) (ls : List Nat) {t : Table κ ν} (h : Cur hp rc t) :
    Cur hp rc (t.lockL c ls) :=
  h.of_scal (foldl_rehashLock_scal c true ls t)

theorem Cur.lockOne {hp rc : Nat} {t : Table κ ν} (h : Cur hp rc t) (c : Cfg κ) (b : Nat) :
    Cur hp rc (t.lockOne c b) := h.rehashLock c _ _

theorem Cur.lockTwo {hp rc : Nat} {t : Table κ ν} (h : Cur hp rc t) (c : Cfg κ) (b1 b2 : Nat) :
    Cur hp rc (t.lockTwo c b1 b2) := by
  rw [lockTwo_eq_lockL]
  exact h.lockL c _

theorem Cur.lockThree {hp rc : Nat} {t : Table κ ν} (h : Cur hp rc t) (c : Cfg κ) (b1 b2 b3 : Nat) :
    Cur hp rc (t.lockThree c b1 b2 b3) := by
  rw [lockThree_eq_lockL]
  exact h.lockL c _

theorem Cur.hop {hp rc : Nat} {t t' : Table κ ν} (h : Cur hp rc t) (c : Cfg κ) (fr to : PathRec)
    (hh : Model.hop c t fr to = some t') : Cur hp rc t' := by
  obtain ⟨_, _, _, _, rfl⟩ := hop_shape c t t' fr to hh
  exact ⟨(Store.set_hp ..).trans ((Store.set_hp ..).trans h.1), h.2⟩

theorem Cur.valid {hp rc : Nat} {t : Table κ ν} (h : Cur hp rc t) : valid t hp rc = true :=
  valid_iff.mpr ⟨h.2, h.1⟩

variable [DecidableEq κ]

def AllSec (c : Cfg κ) (call : Props.C01Conc.Call κ ν) (l : List (Section κ ν)) : Prop := ∀ f ∈ l, SecOf c call f

theorem AllSec.nil (c : Cfg κ) (call : Props.C01Conc.Call κ ν) : AllSec c call [] := nofun

theorem AllSec.cons {c : Cfg κ} {call : Props.C01Conc.Call κ ν} {f : Section κ ν} {l : List (Section κ ν)}
    (hf : SecOf c call f) (hl : AllSec c call l) : AllSec c call (f :: l) :=
  List.forall_mem_cons.mpr ⟨hf, hl⟩

theorem AllSec.append {c : Cfg κ} {call : Props.C01Conc.Call κ ν} {l1 l2 : List (Section κ ν)}
    (h1 : AllSec c call l1) (h2 : AllSec c call l2) : AllSec c call (l1 ++ l2) :=
  List.forall_mem_append.mpr ⟨h1, h2⟩

/-- a list of legitimate sections of one call, as scheduled events -/
def mkEvs (c : Cfg κ) (call : Props.C01Conc.Call κ ν) : (l : List (Section κ ν)) → AllSec c call l → List (Ev c ν)
  | [], _ => []
  | f :: fs, h => ⟨call, f, h f List.mem_cons_self⟩ :: mkEvs c call fs (fun g hg => h g (List.mem_cons_of_mem _ hg))

theorem mkEvs_f (c : Cfg κ) (call : Props.C01Conc.Call κ ν) : ∀ (l : List (Section κ ν)) (h : AllSec c call l),
    (mkEvs c call l h).map (·.f) = l := by
  intro l
  induction l with
  | nil => intro _; rfl
  | cons f fs ih => intro h; exact congrArg (f :: ·) (ih _)

theorem mkEvs_call (c : Cfg κ) (call : Props.C01Conc.Call κ ν) : ∀ (l : List (Section κ ν)) (h : AllSec c call l),
    (mkEvs c call l h).map (·.call) = List.replicate l.length call := by
  intro l
  induction l with
  | nil => intro _; rfl
  | cons f fs ih => intro h; exact congrArg (call :: ·) (ih _)

theorem linRun_single (call : Props.C01Conc.Call κ ν) (r : Resp ν) : ∀ (n : Nat) (m m' : Spec.AMap κ ν),
    linRun m (List.replicate (n + 1) call) (List.replicate n none ++ [some r]) m' → specOf m call r m' := by
  intro n
  induction n with
  | zero =>
    rintro m m' ⟨m1, h1, h2⟩
    exact (show m' = m1 from h2) ▸ h1
  | succ n ih => exact ih

/-- `conc_linearizable` for a run of sections of one call in which only the last answers: it refines that call's
specification -/
theorem done_refines {c : Cfg κ} {call : Props.C01Conc.Call κ ν} {l : List (Section κ ν)} {t : Table κ ν}
    {m : Spec.AMap κ ν} {r : Table κ ν × Resp ν} (hall : AllSec c call l) (hd : Done t l r) (h : Inv c t)
    (hr : Rel c t m) : ∃ m', specOf m call r.2 m' ∧ Inv c r.1 ∧ Rel c r.1 m' := by
  obtain ⟨n, hl, hn⟩ := hd.length
  obtain ⟨m', l1, l2, l3⟩ := conc_linearizable c (mkEvs c call l hall) t m h hr
  rw [mkEvs_f, hn] at l2 l3
  rw [mkEvs_f, mkEvs_call, hn, hl] at l1
  exact ⟨m', linRun_single call r.2 n m m' l1, l2, l3⟩

end Cuckoo.Model.SchedA
