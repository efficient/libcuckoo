import Cuckoo.Proofs.Sched.Calculus
import Cuckoo.Proofs.Search
/-!
One attempt of `run_cuckoo` as a run of sections, for every table (no invariant): the BFS of `slot_search` and the path
decoding of `cuckoopath_search` are runs of `lock_one` sections (`LockRun`), and the path they return has the shape the
hops check; `cuckoopath_move` is a run of `hopSec`s closed by an `insertLastSec` (`PathRun`), when the snapshot is
current.
-/
namespace Cuckoo.Model.SchedA
open Cuckoo Cuckoo.Model Cuckoo.Model.Conc Cuckoo.Model.Sched Cuckoo.Props.C01Conc
variable {κ ν : Type}

inductive LockRun (c : Cfg κ) : Table κ ν → List (Section κ ν) → Table κ ν → Prop
  | nil (t : Table κ ν) : LockRun c t [] t
  | cons {t t' : Table κ ν} {l : List (Section κ ν)} (b : Nat) :
      LockRun c (t.lockOne c b) l t' → LockRun c t (lockSec c [b] :: l) t'

theorem LockRun.quiet {c : Cfg κ} {t t' : Table κ ν} {l : List (Section κ ν)} (h : LockRun c t l t') :
    Quiet t l t' := by
  induction h with
  | nil t => exact Quiet.nil t
  | cons b _ ih => exact Quiet.cons rfl ih

theorem LockRun.locks {c : Cfg κ} {t t' : Table κ ν} {l : List (Section κ ν)} (h : LockRun c t l t') :
    ∀ f ∈ l, ∃ b, f = lockSec c [b] := by
  induction h with
  | nil t => exact fun _ hf => nomatch hf
  | cons b _ ih => exact List.forall_mem_cons.mpr ⟨⟨b, rfl⟩, ih⟩

theorem LockRun.cur {c : Cfg κ} {hp rc : Nat} {t t' : Table κ ν} {l : List (Section κ ν)} (h : LockRun c t l t') :
    Cur hp rc t → Cur hp rc t' := by
  induction h with
  | nil t => exact id
  | cons b _ ih => exact fun hc => ih (hc.lockOne c b)

theorem slotSearch_go_run (c : Cfg κ) (hp : Nat) : ∀ (fuel : Nat) (t : Table κ ν) (q : Array BSlot) (first : Nat),
    LockRun c t (slotSearchSched c hp fuel t q first) (slotSearch.go c false hp fuel t q first).1 := by
  intro fuel
  induction fuel with
  | zero => intro t q first; exact .nil t
  | succ n ih =>
    intro t q first
    simp only [slotSearch.go, slotSearchSched, lockOneM_false]
    cases hq : q[first]? with
    | none => exact .nil t
    | some x =>
      simp only
      refine .cons x.bucket ?_
      cases hb : bfsScan c hp (t.lockOne c x.bucket).cur x with
      | inl r => exact .nil _
      | inr ch => exact ih _ _ _

theorem slotSearch_run (c : Cfg κ) (hp : Nat) (t : Table κ ν) (i1 i2 : Nat) :
    LockRun c t (slotSearchSched c hp (maxCuckooCount c.S + 1) t #[⟨i1, 0, 0⟩, ⟨i2, 1, 0⟩] 0)
      (slotSearch c false hp t i1 i2).1 :=
  slotSearch_go_run c hp _ t _ _

theorem buildPath_go_run (c : Cfg κ) (hp : Nat) : ∀ (slots : List Nat) (t : Table κ ν) (b : Nat) (acc : List PathRec),
    LockRun c t (buildPathSchedGo c hp t b slots) (buildPath.go c false hp t b slots acc).1 := by
  intro slots
  induction slots with
  | nil => intro t b acc; exact .nil t
  | cons s rest ih =>
    intro t b acc
    simp only [buildPath.go, buildPathSchedGo, lockOneM_false]
    refine .cons b ?_
    cases hg : (t.lockOne c b).cur.get c.S b s with
    | none => exact .nil _
    | some sl => exact ih _ _ _

variable [DecidableEq κ]

theorem buildPath_run (c : Cfg κ) (hp : Nat) (t : Table κ ν) (i1 i2 : Nat) (x : BSlot) :
    LockRun c t (buildPathSched c hp t i1 i2 x) (buildPath c false hp t i1 i2 x).1 := by
  unfold buildPath buildPathSched
  generalize decodeSlots c.S (x.depth + 1) x.pathcode [] = d
  obtain ⟨code, slots⟩ := d
  exact buildPath_go_run c hp slots t _ []

theorem LockRun.allSec {c : Cfg κ} {t t' : Table κ ν} {l : List (Section κ ν)} (h : LockRun c t l t')
    (call : Props.C01Conc.Call κ ν) : AllSec c call l := fun f hf => by
  obtain ⟨b, rfl⟩ := h.locks f hf
  exact lockSec_sec c call [b]

section
variable (c : Cfg κ) (k : κ) (v : ν) (ca me : Bool) (fn : Ctx → ν → FnOut ν) (hp rc : Nat)

/-- what the sequential code does after a successful `cuckoopath_move`: duplicate re-check (`insertLoop`), then
`add_to_bucket` and the functor (`uprase`), written with `finishInsert` -/
def tailOf (t3 : Table κ ν) (p0 : PathRec) : Table κ ν × Resp ν :=
  match cuckooFind c t3.cur (c.i1 hp k) (c.i2 hp k) k with
  | some (b, s) => finishInsert c t3 k v ca me fn (.dup b s)
  | none => finishInsert c t3 k v ca me fn (.free p0.bucket p0.slot)

omit [DecidableEq κ] in
theorem hopSec_cur (t : Table κ ν) (fr to : PathRec) (hc : Cur hp rc t)
    (halt : to.bucket = Spec.altIndex hp (Spec.partialKey fr.hash) fr.bucket) (hts : to.slot < c.S) :
    hopSec c hp rc fr to t =
      ((hop c (t.lockTwo c fr.bucket to.bucket) fr to).getD (t.lockTwo c fr.bucket to.bucket), none) := by
  rw [hopSec_eq, (hc.lockTwo c fr.bucket to.bucket).valid, if_pos rfl, lastMove_hop halt hts]

theorem tailOf_eq (t3 : Table κ ν) (p0 : PathRec) :
    tailOf c k v ca me fn hp t3 p0 = finishInsert c t3 k v ca me fn (recheckPos c t3.cur hp k p0.bucket p0.slot) :=
  (apply_recheckPos (finishInsert c t3 k v ca me fn) ..).symm

/-- the last section when the snapshot is current after its locks (`t1`) and the record lies in one of the call's
buckets: the guard passes -/
theorem insertLastSec_cur (t t1 : Table κ ν) (fr : PathRec) (to : Option PathRec)
    (h1 : lockSec c (lastBuckets c hp k to) t = (t1, none)) (hc : Cur hp rc t1)
    (hb : fr.bucket = c.i1 hp k ∨ fr.bucket = c.i2 hp k) (hs : fr.slot < c.S) :
    insertLastSec c hp rc k v ca me fn fr to t =
      match lastMove c hp t1 fr to with
      | none => (t1, none)
      | some t2 => ((tailOf c k v ca me fn hp t2 fr).1, some (tailOf c k v ca me fn hp t2 fr).2) := by
  rw [insertLastSec_eq, h1, if_neg (lastGuard_iff.mpr ⟨hc.valid, hb, hs⟩)]
  simp only [tailOf_eq]
  rfl

theorem pathMoveSchedGo_last (t : Table κ ν) (to fr : PathRec) :
    pathMoveSchedGo c k v ca me fn hp rc t [to, fr] = [insertLastSec c hp rc k v ca me fn fr (some to)] := rfl

theorem pathMoveSchedGo_more (t : Table κ ν) (to fr r : PathRec) (rest : List PathRec) :
    pathMoveSchedGo c k v ca me fn hp rc t (to :: fr :: r :: rest) =
      hopSec c hp rc fr to ::
        match hop c (t.lockTwo c fr.bucket to.bucket) fr to with
        | none => []
        | some t' => pathMoveSchedGo c k v ca me fn hp rc t' (fr :: r :: rest) := by
  simp only [pathMoveSchedGo, List.isEmpty_cons, Bool.false_eq_true, if_false]
  cases hop c (t.lockTwo c fr.bucket to.bucket) fr to <;> rfl

/-- the sections `l`, run from `t`, do what the sequential `cuckoopath_move` did, with its outcome `r`: after a failed
hop they were all silent and the snapshot is still current; after the last hop the run is closed by `insertLastSec`,
which also does what the sequential code does next (`tailOf`) with the slot the path has freed, that of its first
record `p0` -/
def PathRun (t : Table κ ν) (l : List (Section κ ν)) (p0 : Option PathRec) : Table κ ν × Bool → Prop
  | (t', false) => Cur hp rc t' ∧ Quiet t l t'
  | (t', true) => ∀ p, p0 = some p → Done t l (tailOf c k v ca me fn hp t' p)

variable {c k v ca me fn hp rc} in
theorem PathRun.cons {t t1 : Table κ ν} {f : Section κ ν} {l : List (Section κ ν)} {p0 : Option PathRec}
    {r : Table κ ν × Bool} (hf : f t = (t1, none)) (h : PathRun c k v ca me fn hp rc t1 l p0 r) :
    PathRun c k v ca me fn hp rc t (f :: l) p0 r := by
  obtain ⟨t', _ | _⟩ := r
  · exact ⟨h.1, Quiet.cons hf h.2⟩
  · exact fun p e => Done.cons hf (h p e)

theorem pathMove_go_sched : ∀ (rev : List PathRec) (t : Table κ ν),
    Cur hp rc t → RPathOK c hp rev → 2 ≤ rev.length →
    (∀ p, rev.getLast? = some p → p.bucket = c.i1 hp k ∨ p.bucket = c.i2 hp k) →
    PathRun c k v ca me fn hp rc t (pathMoveSchedGo c k v ca me fn hp rc t rev) rev.getLast?
      (pathMove.go c false (c.i1 hp k) (c.i2 hp k) t rev) := by
  intro rev
  induction rev with
  | nil => intro t _ _ hlen; simp at hlen
  | cons to tl ih =>
    intro t hc hok hlen hb
    rcases tl with _ | ⟨fr, _ | ⟨r, rest⟩⟩
    · simp at hlen
    · obtain ⟨hslot, halt, hfs⟩ := hok
      have hc1 := hc.lockThree c (c.i1 hp k) (c.i2 hp k) to.bucket
      have hsec := insertLastSec_cur c k v ca me fn hp rc t (t.lockThree c (c.i1 hp k) (c.i2 hp k) to.bucket) fr (some to)
        rfl hc1 (hb fr rfl) hfs
      rw [lastMove_hop halt hslot] at hsec
      rw [pathMove_go_last, lockThreeM_false, pathMoveSchedGo_last]
      cases hh : hop c (t.lockThree c (c.i1 hp k) (c.i2 hp k) to.bucket) fr to <;> rw [hh] at hsec
      · exact ⟨hc1, Quiet.single hsec⟩
      · exact fun _ e => Option.some.inj e ▸ Done.single hsec
    · obtain ⟨hslot, halt, hok'⟩ := hok
      have hc1 := hc.lockTwo c fr.bucket to.bucket
      have hsec := hopSec_cur c hp rc t fr to hc halt hslot
      rw [pathMove_go_more, lockTwoM_false, pathMoveSchedGo_more]
      cases hh : hop c (t.lockTwo c fr.bucket to.bucket) fr to <;> rw [hh] at hsec
      · exact ⟨hc1, Quiet.single hsec⟩
      · exact (ih _ (hc1.hop c fr to hh) hok' (by simp) hb).cons hsec

theorem pathMove_sched (t : Table κ ν) (path : List PathRec) (hc : Cur hp rc t) (hok : PathOK c hp path)
    (hhead : ∀ p0, path.head? = some p0 → p0.bucket = c.i1 hp k ∨ p0.bucket = c.i2 hp k) :
    PathRun c k v ca me fn hp rc t (pathMoveSched c k v ca me fn hp rc t path) path.head?
      (pathMove c false t (c.i1 hp k) (c.i2 hp k) path) := by
  rcases path with _ | ⟨q0, _ | ⟨q1, rest⟩⟩
  · exact ⟨hc, Quiet.nil t⟩
  · have hc1 := hc.lockTwo c (c.i1 hp k) (c.i2 hp k)
    have hsec := insertLastSec_cur c k v ca me fn hp rc t (t.lockTwo c (c.i1 hp k) (c.i2 hp k)) q0 none rfl hc1
      (hhead q0 rfl) hok
    rw [lastMove] at hsec
    simp only [pathMove, pathMoveSched, lockTwoM_false]
    cases hocc : (t.lockTwo c (c.i1 hp k) (c.i2 hp k)).cur.occ c.S q0.bucket q0.slot <;> rw [hocc] at hsec
    · exact fun _ e => Option.some.inj e ▸ Done.single hsec
    · exact ⟨hc1, Quiet.single hsec⟩
  · have h := pathMove_go_sched c k v ca me fn hp rc (q0 :: q1 :: rest).reverse t hc (RPathOK_reverse c hp _ hok)
      (by simp) (by rw [List.getLast?_reverse]; exact hhead)
    rw [List.getLast?_reverse] at h
    exact h

theorem pathMoveSchedGo_all (rev : List PathRec) (t : Table κ ν) :
    AllSec c (.uprase k v ca me fn) (pathMoveSchedGo c k v ca me fn hp rc t rev) := by
  fun_induction pathMoveSchedGo c k v ca me fn hp rc t rev with
  | case1 => exact .nil c _
  | case2 => exact .nil c _
  | case3 => exact .cons (insertLastSec_sec c hp rc k v ca me fn _ _) (.nil c _)
  | case4 t to fr rest _ ih =>
    refine .cons (hopSec_sec c _ hp rc fr to) ?_
    split
    · exact .nil c _
    · exact ih _

theorem pathMoveSched_all (t : Table κ ν) (path : List PathRec) :
    AllSec c (.uprase k v ca me fn) (pathMoveSched c k v ca me fn hp rc t path) := by
  rcases path with _ | ⟨q0, _ | ⟨q1, rest⟩⟩
  · exact AllSec.nil c _
  · exact AllSec.cons (insertLastSec_sec c hp rc k v ca me fn q0 none) (AllSec.nil c _)
  · exact pathMoveSchedGo_all c k v ca me fn hp rc _ t

end

end Cuckoo.Model.SchedA
