import Cuckoo.Proofs.Store
/-!
Lemmas on the `locked_table` iterator functions, all through one notion: `st.occFrom S i`, the occupied flat indices
`≥ i` in increasing order. `firstFrom` is its head, `traverse` its image under `posOf`, `set … none` filters it.
On a store of the right size `occFrom S 0` is `occIdx`, all occupied flat indices, and `traverse` is `occPos`.
-/
namespace Cuckoo.Model
open Cuckoo
variable {κ ν : Type}

/-- cell with flat index `i` is occupied -/
def Store.occI (st : Store κ ν) (i : Nat) : Bool := (st.cells.getD i none).isSome

def posOf (S i : Nat) : Pos := (i / S, i % S)

/-- occupied flat indices of a store -/
def Store.occIdx (st : Store κ ν) : List Nat :=
  (List.range st.cells.size).filter (fun i => (st.cells.getD i none).isSome)

/-- the occupied positions of a store, in index order -/
def Store.occPos (S : Nat) (st : Store κ ν) : List Pos := st.occIdx.map (posOf S)

/-- occupied flat indices `≥ i`, increasing -/
def Store.occFrom (S : Nat) (st : Store κ ν) (i : Nat) : List Nat :=
  (List.range' i (2 ^ st.hp * S - i)).filter st.occI

theorem flat_posOf (S i : Nat) : Store.flat S (posOf S i) = i := by
  show i / S * S + i % S = i
  rw [Nat.mul_comm]; exact Nat.div_add_mod i S

theorem posOf_flat {S b s : Nat} (hs : s < S) : posOf S (b * S + s) = (b, s) :=
  Prod.ext (flat_div hs) (flat_mod hs)

theorem posOf_inj {S i j : Nat} (h : posOf S i = posOf S j) : i = j := by
  rw [← flat_posOf S i, ← flat_posOf S j, h]

theorem posOf_ne_end {S : Nat} (st : Store κ ν) {i : Nat} (hi : i < 2 ^ st.hp * S) : posOf S i ≠ st.endPos := by
  intro h
  have h1 : i / S = 2 ^ st.hp := congrArg Prod.fst h
  have h2 : i / S < 2 ^ st.hp := Nat.div_lt_of_lt_mul (by rw [Nat.mul_comm]; exact hi)
  exact Nat.ne_of_lt h2 h1

theorem Store.get_posOf {S : Nat} (st : Store κ ν) (hS : 0 < S) (i : Nat) :
    st.get S (posOf S i).1 (posOf S i).2 = st.cells.getD i none :=
  Store.get_divmod hS st i

theorem Store.occI_flat {S : Nat} (st : Store κ ν) {b s : Nat} (hs : s < S) :
    st.occI (b * S + s) = (st.get S b s).isSome := by
  simp [Store.occI, Store.get, hs]

theorem Store.count_eq_occIdx (st : Store κ ν) : st.count = st.occIdx.length := by
  rw [Store.count_eq_countP, ← Array.countP_toList, toList_by_index st.cells none, List.countP_map,
    List.countP_eq_length_filter]
  rfl

theorem Store.mem_occPos {S : Nat} (hS : 0 < S) (st : Store κ ν) (b s : Nat) :
    (b, s) ∈ st.occPos S ↔ ∃ sl, st.get S b s = some sl := by
  rw [← Option.isSome_iff_exists]
  constructor
  · intro h
    obtain ⟨i, hi, hp⟩ := List.mem_map.mp h
    have := st.get_posOf hS i
    rw [hp] at this
    rw [this]
    exact (List.mem_filter.mp hi).2
  · intro h
    obtain ⟨sl, hg⟩ := Option.isSome_iff_exists.mp h
    have ⟨hs, hlt⟩ := Store.get_some_lt hg
    exact List.mem_map.mpr ⟨b * S + s,
      List.mem_filter.mpr ⟨List.mem_range.mpr hlt, (st.occI_flat hs).trans h⟩, posOf_flat hs⟩

theorem Store.occPos_nodup (S : Nat) (st : Store κ ν) : (st.occPos S).Nodup :=
  nodup_map_of_inj (List.Nodup.sublist List.filter_sublist List.nodup_range) fun _ _ _ _ => posOf_inj

theorem Store.occFrom_ge (S : Nat) (st : Store κ ν) {i : Nat} (hi : 2 ^ st.hp * S ≤ i) : st.occFrom S i = [] := by
  rw [Store.occFrom, Nat.sub_eq_zero_of_le hi]; rfl

theorem Store.occFrom_lt (S : Nat) (st : Store κ ν) {i : Nat} (hi : i < 2 ^ st.hp * S) :
    st.occFrom S i = if st.occI i then i :: st.occFrom S (i + 1) else st.occFrom S (i + 1) := by
  have : 2 ^ st.hp * S - i = 2 ^ st.hp * S - (i + 1) + 1 := by
    rw [← Nat.sub_sub, Nat.sub_add_cancel (Nat.sub_pos_of_lt hi)]
  rw [Store.occFrom, this, List.range'_succ, List.filter_cons]
  rfl

theorem Store.mem_occFrom {S : Nat} (st : Store κ ν) {i j : Nat} :
    j ∈ st.occFrom S i ↔ i ≤ j ∧ j < 2 ^ st.hp * S ∧ st.occI j = true := by
  simp only [Store.occFrom, List.mem_filter, List.mem_range'_1]
  generalize 2 ^ st.hp * S = n
  constructor
  · rintro ⟨⟨h1, h2⟩, h3⟩; exact ⟨h1, by omega, h3⟩
  · rintro ⟨h1, h2, h3⟩; exact ⟨⟨h1, by omega⟩, h3⟩

theorem Store.firstFrom_ge (S : Nat) (st : Store κ ν) (i : Nat) (hi : 2 ^ st.hp * S ≤ i) :
    st.firstFrom S i = st.endPos := by
  show Store.firstFrom.go S st _ i (2 ^ st.hp * S + 1 - i) = _
  cases 2 ^ st.hp * S + 1 - i with
  | zero => rw [Store.firstFrom.go]
  | succ f => rw [Store.firstFrom.go, if_pos hi]

theorem Store.firstFrom_lt (S : Nat) (st : Store κ ν) (i : Nat) (hi : i < 2 ^ st.hp * S) :
    st.firstFrom S i = if st.occI i then posOf S i else st.firstFrom S (i + 1) := by
  show Store.firstFrom.go S st _ i (2 ^ st.hp * S + 1 - i) = _
  have : 2 ^ st.hp * S + 1 - i = 2 ^ st.hp * S + 1 - (i + 1) + 1 := by
    rw [← Nat.sub_sub, Nat.sub_add_cancel (Nat.sub_pos_of_lt (Nat.lt_succ_of_lt hi))]
  rw [this, Store.firstFrom.go, if_neg (Nat.not_le.mpr hi)]
  rfl

theorem Store.scan_induction (S : Nat) (st : Store κ ν) {motive : Nat → Prop}
    (ge : ∀ i, 2 ^ st.hp * S ≤ i → motive i) (lt : ∀ i, i < 2 ^ st.hp * S → motive (i + 1) → motive i) (i : Nat) :
    motive i := by
  generalize hd : 2 ^ st.hp * S - i = d
  induction d generalizing i with
  | zero => exact ge i (by omega)
  | succ d ih => exact lt i (by omega) (ih (i + 1) (by omega))

theorem Store.firstFrom_eq (S : Nat) (st : Store κ ν) (i : Nat) :
    st.firstFrom S i = ((st.occFrom S i).head?.map (posOf S)).getD st.endPos := by
  induction i using st.scan_induction S with
  | ge i hi => rw [st.firstFrom_ge S i hi, st.occFrom_ge S hi]; rfl
  | lt i hi ih =>
    rw [st.firstFrom_lt S i hi, st.occFrom_lt S hi, ih]
    cases st.occI i <;> rfl

/-- every iterator that `firstFrom` produces (`begin()`, `++it`, the private constructor) is `end()` or on an element -/
theorem Store.firstFrom_cases (S : Nat) (st : Store κ ν) (i : Nat) :
    st.firstFrom S i = st.endPos ∨ ∃ j ∈ st.occFrom S i, st.firstFrom S i = posOf S j := by
  rw [st.firstFrom_eq S i]
  cases h : (st.occFrom S i).head? with
  | none => exact Or.inl rfl
  | some j => exact Or.inr ⟨j, List.mem_of_mem_head? h, rfl⟩

theorem Store.itBegin_eq (S : Nat) (st : Store κ ν) : st.itBegin S = st.firstFrom S 0 := by
  have : ((0, 0) : Pos) ≠ st.endPos := fun h => absurd (congrArg Prod.fst h) (Nat.ne_of_lt (Nat.two_pow_pos st.hp))
  show (if (0, 0) = st.endPos then _ else st.firstFrom S (0 * S + 0)) = _
  rw [if_neg this, Nat.zero_mul]

theorem Store.itAt_occ {S : Nat} (st : Store κ ν) (hsz : st.cells.size = 2 ^ st.hp * S) {b s : Nat} {sl : Slot κ ν}
    (h : st.get S b s = some sl) : st.itAt S (b, s) = (b, s) := by
  have ⟨hs, hlt⟩ := Store.get_some_lt h
  unfold Store.itAt
  split
  · rfl
  · show st.firstFrom S (b * S + s) = (b, s)
    rw [st.firstFrom_lt S _ (hsz ▸ hlt), st.occI_flat hs, h, posOf_flat hs]; rfl

theorem Store.traverse_go (S : Nat) (st : Store κ ν) (i fuel : Nat) (acc : List Pos) (hf : 2 ^ st.hp * S - i ≤ fuel) :
    Store.traverse.go S st (st.firstFrom S i) fuel acc = acc.reverse ++ (st.occFrom S i).map (posOf S) := by
  induction i using st.scan_induction S generalizing fuel acc with
  | ge i hi =>
    rw [st.firstFrom_ge S i hi, st.occFrom_ge S hi, List.map_nil, List.append_nil]
    cases fuel with
    | zero => rw [Store.traverse.go]
    | succ f => rw [Store.traverse.go, if_pos rfl]
  | lt i hi ih =>
    rw [st.firstFrom_lt S i hi, st.occFrom_lt S hi]
    cases st.occI i with
    | false => exact ih fuel acc (by omega)
    | true =>
      obtain ⟨f, rfl⟩ : ∃ f, fuel = f + 1 := ⟨fuel - 1, by omega⟩
      rw [if_pos rfl, if_pos rfl, Store.traverse.go, if_neg (posOf_ne_end st hi)]
      show Store.traverse.go S st (st.firstFrom S (Store.flat S (posOf S i) + 1)) f _ = _
      rw [flat_posOf, ih f _ (by omega), List.reverse_cons, List.append_assoc]
      rfl

theorem Store.occFrom_zero (S : Nat) (st : Store κ ν) :
    st.occFrom S 0 = (List.range (2 ^ st.hp * S)).filter st.occI := by
  rw [Store.occFrom, Nat.sub_zero, ← List.range_eq_range']

theorem Store.traverse_eq (S : Nat) (st : Store κ ν) (hsz : st.cells.size = 2 ^ st.hp * S) :
    st.traverse S = (st.occFrom S 0).map (posOf S) := by
  unfold Store.traverse
  rw [Store.itBegin_eq, st.traverse_go S 0 _ [] (hsz ▸ Nat.le_succ _)]
  rfl

theorem Store.traverse_eq_occPos (S : Nat) (st : Store κ ν) (hsz : st.cells.size = 2 ^ st.hp * S) :
    st.traverse S = st.occPos S := by
  rw [st.traverse_eq S hsz, st.occFrom_zero S, ← hsz]
  rfl

theorem Store.traverse_nodup (S : Nat) (st : Store κ ν) (hsz : st.cells.size = 2 ^ st.hp * S) :
    (st.traverse S).Nodup := by
  rw [st.traverse_eq_occPos S hsz]
  exact st.occPos_nodup S

theorem Store.itBegin_eq_head (S : Nat) (st : Store κ ν) (hsz : st.cells.size = 2 ^ st.hp * S) :
    st.itBegin S = (st.traverse S).head?.getD st.endPos := by
  rw [st.traverse_eq S hsz, List.head?_map, Store.itBegin_eq, st.firstFrom_eq]

theorem Store.endPos_not_mem_traverse (S : Nat) (st : Store κ ν) (hsz : st.cells.size = 2 ^ st.hp * S) :
    st.endPos ∉ st.traverse S := by
  rw [st.traverse_eq S hsz]
  intro h
  obtain ⟨i, hi, hp⟩ := List.mem_map.mp h
  exact posOf_ne_end st (st.mem_occFrom.mp hi).2.1 hp

theorem Store.itBegin_eq_end_iff_nil (S : Nat) (st : Store κ ν) (hsz : st.cells.size = 2 ^ st.hp * S) :
    st.itBegin S = st.endPos ↔ st.traverse S = [] := by
  have hne := st.endPos_not_mem_traverse S hsz
  rw [st.itBegin_eq_head S hsz]
  cases h : st.traverse S with
  | nil => exact ⟨fun _ => rfl, fun _ => rfl⟩
  | cons p l =>
    rw [h] at hne
    exact ⟨fun e => absurd (e ▸ List.mem_cons_self) hne, fun e => nomatch e⟩

theorem Store.occI_set_none (S : Nat) (st : Store κ ν) (b s j : Nat) :
    (st.set S b s none).occI j = (decide (j ≠ b * S + s) && st.occI j) := by
  simp only [Store.occI, Store.set, Array.getD_eq_getD_getElem?, Array.getElem?_setIfInBounds]
  by_cases e : b * S + s = j
  · rw [if_pos e, decide_eq_false (fun h => h e.symm)]; split <;> rfl
  · rw [if_neg e, decide_eq_true (Ne.symm e)]; rfl

theorem Store.occFrom_set_none (S : Nat) (st : Store κ ν) (b s i : Nat) :
    (st.set S b s none).occFrom S i = (st.occFrom S i).filter (fun j => decide (j ≠ b * S + s)) := by
  unfold Store.occFrom
  rw [List.filter_filter]
  exact List.filter_congr (fun j _ => st.occI_set_none S b s j)

/-- erasing the cell under an iterator and re-normalising the iterator gives the old successor -/
theorem Store.itAt_set_none {S : Nat} (st : Store κ ν) (hsz : st.cells.size = 2 ^ st.hp * S) {b s : Nat} {sl : Slot κ ν}
    (h : st.get S b s = some sl) : (st.set S b s none).itAt S (b, s) = st.itNext S (b, s) := by
  have ⟨hs, hlt⟩ := Store.get_some_lt h
  rw [hsz] at hlt
  have hne : ((b, s) : Pos) ≠ (st.set S b s none).endPos := posOf_flat hs ▸ posOf_ne_end st hlt
  unfold Store.itAt Store.itNext
  rw [if_neg hne]
  show (st.set S b s none).firstFrom S (b * S + s) = st.firstFrom S (b * S + s + 1)
  -- the occupied indices from `b * S + s` on are that index and then those after it; the erase drops the first
  have hocc : st.occFrom S (b * S + s) = (b * S + s) :: st.occFrom S (b * S + s + 1) := by
    rw [st.occFrom_lt S hlt, st.occI_flat hs, h]; rfl
  rw [Store.firstFrom_eq, Store.firstFrom_eq, st.occFrom_set_none, hocc,
    List.filter_cons_of_neg (by rw [decide_eq_true_eq]; exact fun h => h rfl),
    List.filter_eq_self.mpr (fun j hj => decide_eq_true (Nat.ne_of_gt (st.mem_occFrom.mp hj).1))]
  rfl

/-- with `S > 0`, `end()` is the position of the flat index one past the last cell: every iterator is `posOf S i` -/
theorem Store.endPos_eq_posOf {S : Nat} (hS : 0 < S) (st : Store κ ν) : st.endPos = posOf S (2 ^ st.hp * S) := by
  show (2 ^ st.hp, 0) = (2 ^ st.hp * S / S, 2 ^ st.hp * S % S)
  rw [Nat.mul_div_cancel _ hS, Nat.mul_mod_left]

/-- occupied flat indices `< i`, increasing -/
def Store.occBelow (st : Store κ ν) (i : Nat) : List Nat := (List.range i).filter st.occI

theorem Store.occBelow_succ (st : Store κ ν) (i : Nat) :
    st.occBelow (i + 1) = if st.occI i then st.occBelow i ++ [i] else st.occBelow i := by
  rw [Store.occBelow, List.range_succ, List.filter_append]
  cases h : st.occI i <;> simp [Store.occBelow, h]

theorem Store.occFrom_zero_split (S : Nat) (st : Store κ ν) {i : Nat} (hi : i ≤ 2 ^ st.hp * S) :
    st.occFrom S 0 = st.occBelow i ++ st.occFrom S i := by
  rw [st.occFrom_zero S, Store.occBelow, Store.occFrom, ← List.filter_append, List.range_eq_range', List.range_eq_range']
  congr 1
  have := List.range'_append (s := 0) (m := i) (n := 2 ^ st.hp * S - i) (step := 1)
  rw [Nat.zero_add, Nat.one_mul, Nat.add_sub_cancel' hi] at this
  exact this.symm

theorem Store.lastBefore_go_succ (S : Nat) (st : Store κ ν) (i : Nat) :
    Store.lastBefore.go S st (i + 1) = if st.occI i then posOf S i else Store.lastBefore.go S st i := by
  rw [Store.lastBefore.go]; rfl

/-- `--it` from index `i` lands on the last occupied index below `i` -/
theorem Store.lastBefore_cases (S : Nat) (st : Store κ ν) (i : Nat) :
    st.occBelow i = [] ∨ ∃ j, j < i ∧ st.occI j = true ∧ st.occBelow i = st.occBelow j ++ [j] ∧
      Store.lastBefore.go S st i = posOf S j := by
  induction i with
  | zero => exact Or.inl rfl
  | succ i ih =>
    rw [st.lastBefore_go_succ, st.occBelow_succ]
    cases h : st.occI i with
    | true => exact Or.inr ⟨i, Nat.lt_succ_self i, h, rfl, rfl⟩
    | false =>
      rcases ih with h0 | ⟨j, hj, h1, h2, h3⟩
      · exact Or.inl h0
      · exact Or.inr ⟨j, Nat.lt_succ_of_lt hj, h1, h2, h3⟩

/-- the flat indices an iterator can stand on: `end()` or an occupied cell -/
def Store.IsIt (S : Nat) (st : Store κ ν) (i : Nat) : Prop :=
  i = 2 ^ st.hp * S ∨ (i < 2 ^ st.hp * S ∧ st.occI i = true)

theorem Store.IsIt.le {S : Nat} {st : Store κ ν} {i : Nat} (h : st.IsIt S i) : i ≤ 2 ^ st.hp * S := by
  rcases h with rfl | ⟨h, _⟩
  · exact Nat.le_refl _
  · exact Nat.le_of_lt h

theorem Store.IsIt.firstFrom {S : Nat} (hS : 0 < S) {st : Store κ ν} {i : Nat} (h : st.IsIt S i) :
    st.firstFrom S i = posOf S i := by
  rcases h with rfl | ⟨hi, ho⟩
  · rw [st.firstFrom_ge S _ (Nat.le_refl _), st.endPos_eq_posOf hS]
  · rw [st.firstFrom_lt S i hi, ho]; rfl

theorem Store.IsIt.eq_begin_iff {S : Nat} (hS : 0 < S) {st : Store κ ν} {i : Nat} (h : st.IsIt S i) :
    posOf S i = st.firstFrom S 0 ↔ st.occBelow i = [] := by
  -- `begin()` is the head of `occBelow i ++ occFrom S i`: that of `occBelow i`, which is `< i`, or else `firstFrom S i`
  rw [st.firstFrom_eq S 0, st.occFrom_zero_split S h.le]
  cases hb : st.occBelow i with
  | nil =>
    rw [List.nil_append, ← st.firstFrom_eq S i, h.firstFrom hS]
    exact iff_of_true rfl rfl
  | cons a l =>
    have ha : a < i := List.mem_range.mp (List.mem_filter.mp (hb ▸ List.mem_cons_self : a ∈ st.occBelow i)).1
    exact iff_of_false (fun e => Nat.ne_of_gt ha (posOf_inj e)) (List.cons_ne_nil a l)

theorem Store.traverseBack_go {S : Nat} (hS : 0 < S) (st : Store κ ν) (i fuel : Nat) (acc : List Pos)
    (hi : st.IsIt S i) (hf : i ≤ fuel) :
    Store.traverseBack.go S st (st.firstFrom S 0) (posOf S i) fuel acc =
      acc.reverse ++ ((st.occBelow i).map (posOf S)).reverse := by
  induction i using Nat.strongRecOn generalizing fuel acc with
  | ind i ih =>
    rcases st.lastBefore_cases S i with h0 | ⟨j, hj, ho, hl, hgo⟩
    · rw [h0, List.map_nil, List.reverse_nil, List.append_nil]
      cases fuel with
      | zero => rw [Store.traverseBack.go]
      | succ f => rw [Store.traverseBack.go, if_pos ((hi.eq_begin_iff hS).mpr h0)]
    · obtain ⟨f, rfl⟩ : ∃ f, fuel = f + 1 := ⟨fuel - 1, by omega⟩
      have hne : posOf S i ≠ st.firstFrom S 0 := by
        rw [Ne, hi.eq_begin_iff hS, hl]
        exact List.append_ne_nil_of_right_ne_nil _ (List.cons_ne_nil _ _)
      have hq : st.itPrev S (posOf S i) = posOf S j := by
        show Store.lastBefore.go S st (Store.flat S (posOf S i)) = _
        rw [flat_posOf, hgo]
      rw [Store.traverseBack.go, if_neg hne]
      simp only
      rw [hq, ih j hj f _ (Or.inr ⟨Nat.lt_of_lt_of_le hj hi.le, ho⟩) (by omega), hl]
      simp

theorem Store.traverseBack_eq (S : Nat) (st : Store κ ν) (hS : 0 < S) (hsz : st.cells.size = 2 ^ st.hp * S) :
    st.traverseBack S = (st.traverse S).reverse := by
  rw [st.traverse_eq S hsz, st.occFrom_zero S]
  unfold Store.traverseBack
  simp only
  rw [Store.itBegin_eq, st.endPos_eq_posOf hS, st.traverseBack_go hS _ _ [] (Or.inl rfl) (hsz ▸ Nat.le_succ _)]
  rfl

end Cuckoo.Model
