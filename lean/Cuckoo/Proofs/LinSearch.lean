import Cuckoo.Model.Lin
/-!
The search of the linearizability checker (`Model/Lin.lean`): the plain search is sound and complete (`search_sound`,
`search_complete`); the memoizing search returns what the plain one returns (`searchM_eq`); the re-validation of a
witness accepts exactly the linearizations (`validWitness_iff`).
-/
namespace Cuckoo.Lin
open Cuckoo.Spec Cuckoo.Lin

/-- real-time order as a `Pairwise` property: an earlier call of the order was invoked no later than any later call
responded -/
def PairwiseRealTime (l : List HOp) : Prop := l.Pairwise (fun a b => a.inv ≤ b.resp)

/-- a linearization of the pending calls `p` from the map `m` -/
def IsLin (final m : AMap Nat Nat) (p w : List HOp) : Prop :=
  w.Perm p ∧ PairwiseRealTime w ∧ ∃ m', runSpec m w = some m' ∧ sameMap m' final = true

theorem le_foldl_min (x : Nat) (l : List HOp) (a : Nat) :
    x ≤ l.foldl (fun a p => min a p.resp) a ↔ x ≤ a ∧ ∀ q ∈ l, x ≤ q.resp := by
  induction l generalizing a with
  | nil => simp
  | cons q qs ih => rw [List.foldl_cons, ih, Nat.le_min, List.forall_mem_cons, and_assoc]

theorem le_minResp (x : Nat) (q : HOp) (qs : List HOp) : x ≤ minResp q qs ↔ ∀ r ∈ q :: qs, x ≤ r.resp :=
  (le_foldl_min x qs q.resp).trans (List.forall_mem_cons (p := fun r : HOp => x ≤ r.resp)).symm

theorem subset_middle (o : HOp) (p1 p2 : List HOp) : p1 ++ p2 ⊆ p1 ++ o :: p2 :=
  (List.Sublist.append_left (List.sublist_cons_self o p2) p1).subset

theorem tryEach_some (k : AMap Nat Nat → List HOp → Option (List HOp)) (m : AMap Nat Nat) (lim : Nat)
    (pre post w : List HOp) (h : tryEach k m lim pre post = some w) :
    ∃ o post1 post2 m' w', post = post1 ++ o :: post2 ∧ o.inv ≤ lim ∧ applySpec m o.op o.res = some m' ∧
      k m' (pre.reverse ++ (post1 ++ post2)) = some w' ∧ w = o :: w' := by
  induction post generalizing pre with
  | nil => cases h
  | cons o post ih =>
    rw [tryEach] at h
    split at h
    · -- `o` goes next
      rename_i w1 hr
      split at hr
      · rename_i hlim
        split at hr
        · rename_i m1 happ
          exact ⟨o, [], post, m1, w1, rfl, hlim, happ, by rw [← hr, List.reverseAux_eq]; rfl, (Option.some.inj h).symm⟩
        · cases hr
      · cases hr
    · obtain ⟨o', p1, p2, m', w', rfl, e2, e3, e4, e5⟩ := ih (o :: pre) h
      exact ⟨o', o :: p1, p2, m', w', rfl, e2, e3, by simpa using e4, e5⟩

theorem tryEach_isSome (k : AMap Nat Nat → List HOp → Option (List HOp)) (m : AMap Nat Nat) (lim : Nat)
    (o : HOp) (m' : AMap Nat Nat) (post1 post2 pre : List HOp)
    (h1 : o.inv ≤ lim) (h2 : applySpec m o.op o.res = some m')
    (h3 : (k m' (pre.reverse ++ (post1 ++ post2))).isSome = true) :
    (tryEach k m lim pre (post1 ++ o :: post2)).isSome = true := by
  induction post1 generalizing pre with
  | nil =>
    rw [List.nil_append, tryEach]
    simp only [h1, if_true, h2, List.reverseAux_eq]
    rw [List.nil_append] at h3
    cases hk : k m' (pre.reverse ++ post2) with
    | none => rw [hk] at h3; cases h3
    | some w => rfl
  | cons x post1 ih =>
    rw [List.cons_append, tryEach]
    have hrec := ih (x :: pre) (by simpa using h3)
    split
    · rfl
    · exact hrec

theorem runSpec_cons (m : AMap Nat Nat) (o : HOp) (w : List HOp) (m1 : AMap Nat Nat)
    (h : applySpec m o.op o.res = some m1) : runSpec m (o :: w) = runSpec m1 w := by
  simp only [runSpec, h]

theorem search_nil (final : AMap Nat Nat) (fuel : Nat) (m : AMap Nat Nat) :
    search final fuel m [] = if sameMap m final then some [] else none := by
  cases fuel <;> rfl

theorem isLin_nil (final m : AMap Nat Nat) (w : List HOp) : IsLin final m [] w ↔ w = [] ∧ sameMap m final = true :=
  ⟨fun ⟨h1, _, _, h3, h4⟩ => by cases h1.eq_nil; cases h3; exact ⟨rfl, h4⟩,
   fun ⟨e, h⟩ => e.symm ▸ ⟨.nil, .nil, m, rfl, h⟩⟩

theorem search_sound (final : AMap Nat Nat) : ∀ (fuel : Nat) (m : AMap Nat Nat) (p w : List HOp),
    search final fuel m p = some w → IsLin final m p w
  | fuel, m, [], w, h => by
    rw [search_nil] at h
    split at h <;> cases h
    exact (isLin_nil ..).mpr ⟨rfl, ‹_›⟩
  | 0, _, _ :: _, _, h => nomatch h
  | fuel + 1, m, q :: qs, w, h => by
    obtain ⟨o, p1, p2, m1, w1, e1, e2, e3, e4, rfl⟩ := tryEach_some _ m _ [] (q :: qs) w h
    obtain ⟨i1, i2, m', i3, i4⟩ := search_sound final fuel m1 (p1 ++ p2) w1 e4
    rw [e1]
    refine ⟨((List.perm_cons o).mpr i1).trans List.perm_middle.symm, List.pairwise_cons.mpr ⟨fun r hr => ?_, i2⟩, m',
      (runSpec_cons m o w1 m1 e3).trans i3, i4⟩
    refine (le_minResp o.inv q qs).mp e2 r ?_
    exact e1 ▸ subset_middle o p1 p2 (i1.mem_iff.mp hr)

theorem search_complete (final : AMap Nat Nat) : ∀ (fuel : Nat) (m : AMap Nat Nat) (p w : List HOp),
    p.length ≤ fuel → (∀ o ∈ p, o.inv ≤ o.resp) → IsLin final m p w → (search final fuel m p).isSome = true
  | fuel, m, [], w, _, _, h => by rw [search_nil, if_pos ((isLin_nil ..).mp h).2]; rfl
  | 0, _, _ :: _, _, hf, _, _ => absurd hf (Nat.not_succ_le_zero _)
  | fuel + 1, m, q :: qs, w, hf, hwf, ⟨h1, h2, m', h3, h4⟩ => by
    obtain _ | ⟨o, w1⟩ := w
    · cases h1.symm.eq_nil
    have ho : o ∈ q :: qs := h1.mem_iff.mp (List.mem_cons_self ..)
    obtain ⟨p1, p2, e1⟩ := List.append_of_mem ho
    have hperm : w1.Perm (p1 ++ p2) := ((e1 ▸ h1).trans List.perm_middle).cons_inv
    obtain ⟨r1, r2⟩ := List.pairwise_cons.mp h2
    cases happ : applySpec m o.op o.res with
    | none => simp [runSpec, happ] at h3
    | some m1 =>
      rw [runSpec_cons m o w1 m1 happ] at h3
      have hlen : (p1 ++ p2).length ≤ fuel := by
        have := congrArg List.length e1
        simp only [List.length_append, List.length_cons] at this hf ⊢
        omega
      have hrec := search_complete final fuel m1 (p1 ++ p2) w1 hlen (fun x hx => hwf x (e1 ▸ subset_middle o p1 p2 hx))
        ⟨hperm, r2, m', h3, h4⟩
      rw [search, e1]
      refine tryEach_isSome _ m _ o m1 p1 p2 [] ((le_minResp o.inv q qs).mpr fun r hr => ?_) happ hrec
      -- `o` precedes every other pending call in `w`; for `o` itself this is `inv ≤ resp`
      rcases List.mem_cons.mp (h1.mem_iff.mpr hr) with rfl | a
      · exact hwf r ho
      · exact r1 r a

/-- the invariant of the memo table: from every remembered configuration the plain search finds nothing, so answering
`none` on a hit is what the plain search answers.  Entries do not record the fuel: it is the number of pending calls
throughout (`hf` in `searchM_eq`) -/
def CacheOK (final : AMap Nat Nat) (c : Cache) : Prop := ∀ e ∈ c, search final e.1.length e.2 e.1 = none

/-- `tryEachM` over a continuation `kM` that agrees with `k` on lists of length `n` (and keeps the cache invariant `I`)
agrees with `tryEach` over `k` -/
theorem tryEachM_eq (I : Cache → Prop) (n : Nat)
    (kM : AMap Nat Nat → List HOp → Cache → Option (List HOp) × Cache) (k : AMap Nat Nat → List HOp → Option (List HOp))
    (hk : ∀ m' p' c, p'.length = n → I c → (kM m' p' c).1 = k m' p' ∧ I (kM m' p' c).2)
    (m : AMap Nat Nat) (lim : Nat) (pre post : List HOp) (c : Cache)
    (hn : pre.length + post.length = n + 1) (hc : I c) :
    (tryEachM kM m lim pre post c).1 = tryEach k m lim pre post ∧ I (tryEachM kM m lim pre post c).2 := by
  induction post generalizing pre c with
  | nil => exact ⟨rfl, hc⟩
  | cons o post ih =>
    have hn' : (o :: pre).length + post.length = n + 1 := (Nat.succ_add_eq_add_succ ..).trans hn
    rw [tryEachM, tryEach]
    by_cases hlim : o.inv ≤ lim
    · simp only [hlim, if_true]
      cases applySpec m o.op o.res with
      | none => exact ih (o :: pre) c hn' hc
      | some m1 =>
        obtain ⟨h1, h2⟩ := hk m1 (pre.reverseAux post) c
          (by rw [List.reverseAux_eq, List.length_append, List.length_reverse]; exact Nat.succ.inj hn) hc
        simp only [← h1]
        generalize kM m1 (pre.reverseAux post) c = x at h2
        obtain ⟨_ | w, c1⟩ := x
        · exact ih (o :: pre) c1 hn' h2
        · exact ⟨rfl, h2⟩
    · simp only [hlim, if_false]
      exact ih (o :: pre) c hn' hc

theorem searchM_eq (final : AMap Nat Nat) (fuel : Nat) (m : AMap Nat Nat) (p : List HOp) (c : Cache)
    (hf : p.length = fuel) (hc : CacheOK final c) :
    (searchM final fuel m p c).1 = search final fuel m p ∧ CacheOK final (searchM final fuel m p c).2 := by
  induction fuel generalizing m p c with
  | zero =>
    cases p with
    | nil => exact ⟨rfl, hc⟩
    | cons q qs => cases hf
  | succ fuel ih =>
    cases p with
    | nil => cases hf
    | cons q qs =>
      rw [searchM, search]
      split
      · rename_i hmem
        have := hc _ (List.contains_iff_mem.mp hmem)
        simp only [hf, search] at this
        exact ⟨this.symm, hc⟩
      · obtain ⟨h1, h2⟩ := tryEachM_eq (CacheOK final) fuel (searchM final fuel) (search final fuel)
          (fun m' p' c hp hc => ih m' p' c hp hc) m (minResp q qs) [] (q :: qs) c
          ((Nat.zero_add _).trans hf) hc
        rw [← h1]
        generalize tryEachM (searchM final fuel) m (minResp q qs) [] (q :: qs) c = x at h1 h2
        obtain ⟨_ | w, c'⟩ := x
        · refine ⟨rfl, fun e he => ?_⟩
          rcases List.mem_cons.mp he with rfl | he
          · simp only [hf, search]
            exact h1.symm
          · exact h2 e he
        · exact ⟨rfl, h2⟩

theorem realTimeB_iff (l : List HOp) : realTimeB l = true ↔ PairwiseRealTime l := by
  induction l with
  | nil => simp [realTimeB, PairwiseRealTime]
  | cons o rest ih =>
    simp only [realTimeB, Bool.and_eq_true, List.all_eq_true, decide_eq_true_eq, ih, PairwiseRealTime, List.pairwise_cons]

theorem validWitness_iff (m0 : AMap Nat Nat) (h order : List HOp) (final : AMap Nat Nat) :
    validWitness m0 h order final = true ↔ IsLin final m0 h order := by
  unfold validWitness IsLin
  simp only [Bool.and_eq_true, List.isPerm_iff, realTimeB_iff]
  cases hr : runSpec m0 order with
  | none => simp
  | some m => simp [and_assoc]

end Cuckoo.Lin
