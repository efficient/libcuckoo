import Cuckoo.Proofs.Writes
/-!
One stripe of the lazy migration, under the weak invariant `WInv` (all of `Inv` but the `rem` bookkeeping, which does
not hold in the middle of `migrateAll`).  `rehashWrites_spec` says what the write trace of an un-migrated stripe is;
`WInv.relocate` shows that a trace of that kind, for any set of un-migrated buckets, keeps `WInv` and the live view.
-/
namespace Cuckoo.Model
open Cuckoo
variable {κ ν : Type}

theorem i1_double_mod (c : Cfg κ) (hp : Nat) (k : κ) : c.i1 (hp + 1) k % 2 ^ hp = c.i1 hp k :=
  Spec.indexHash_double_mod hp (c.hash k)

theorem i2_double_mod (c : Cfg κ) (hp : Nat) (k : κ) : c.i2 (hp + 1) k % 2 ^ hp = c.i2 hp k := by
  unfold Cfg.i2
  rw [Spec.altIndex_double_mod, i1_double_mod]

theorem i1_double (c : Cfg κ) (hp : Nat) (k : κ) :
    c.i1 (hp + 1) k = c.i1 hp k ∨ c.i1 (hp + 1) k = c.i1 hp k + 2 ^ hp :=
  Spec.indexHash_double hp (c.hash k)

theorem i2_double (c : Cfg κ) (hp : Nat) (k : κ) :
    c.i2 (hp + 1) k = c.i2 hp k ∨ c.i2 (hp + 1) k = c.i2 hp k + 2 ^ hp := by
  have h := Spec.altIndex_double hp (c.tag k) (c.i1 (hp + 1) k)
  rwa [i1_double_mod] at h

theorem stay_cand (c : Cfg κ) (ohp b : Nat) (k : κ) (hc : b = c.i1 ohp k ∨ b = c.i2 ohp k)
    (hn : ¬ mvCond c ohp (ohp + 1) b (b + 2 ^ ohp) k) :
    b = c.i1 (ohp + 1) k ∨ b = c.i2 (ohp + 1) k := by
  unfold mvCond at hn
  rcases hc with h1 | h2
  · rcases i1_double c ohp k with e | e
    · left; rw [e]; exact h1
    · exfalso; apply hn; left; exact ⟨h1, by rw [e, ← h1]⟩
  · rcases i2_double c ohp k with e | e
    · right; rw [e]; exact h2
    · exfalso; apply hn; right; exact ⟨h2, by rw [e, ← h2]⟩

theorem stripeWrites_src (c : Cfg κ) (old : Store κ ν) (step n b : Nat) (ho : old.WF c)
    (w : Write κ ν) (hw : w ∈ stripeWrites c old (old.hp + 1) step n b) :
    w.2.2.tag = c.tag w.2.2.key ∧ (w.1 = c.i1 (old.hp + 1) w.2.2.key ∨ w.1 = c.i2 (old.hp + 1) w.2.2.key) ∧
    ∃ i s, i < n ∧ old.get c.S (b + i * step) s = some w.2.2 := by
  obtain ⟨i, hi, hwb⟩ := mem_stripeWrites.mp hw
  obtain ⟨s, _, hg, hc⟩ := mvWrites_src c old (old.hp + 1) (b + i * step) 0 c.S 0 (Nat.le_refl _) w hwb
  obtain ⟨ht, hcand⟩ := ho.place _ _ _ hg
  refine ⟨ht, ?_, i, s, hi, hg⟩
  rcases hc with ⟨hn, e1, _⟩ | ⟨hy, e1, _⟩ <;> rw [e1]
  · exact stay_cand c old.hp _ _ hcand hn
  · exact hy.imp (fun h => h.2.symm) (fun h => h.2.symm)

theorem filter_modify_len (xs : List Lock) (l : Nat) (lk : Lock) (h : xs[l]? = some lk)
    (hm : lk.migrated = false) :
    ((xs.modify l (fun x => { x with migrated := true })).filter (fun l => !l.migrated)).length + 1 =
      (xs.filter (fun l => !l.migrated)).length := by
  obtain ⟨hl, rfl⟩ := List.getElem?_eq_some_iff.mp h
  have hle := List.boole_getElem_le_countP (p := fun l : Lock => !l.migrated) hl
  -- `List.modify_eq_set` is stated with a default element
  haveI : Inhabited Lock := ⟨xs[l]⟩
  rw [← List.countP_eq_length_filter, ← List.countP_eq_length_filter, List.modify_eq_set, List.countP_set hl]
  simp only [hm, Bool.not_false, Bool.not_true, if_true, Bool.false_eq_true, if_false] at hle ⊢
  omega

/-- `Inv` without the `rem` bookkeeping (which does not hold in the middle of `migrateAll`) -/
structure WInv (c : Cfg κ) (t : Table κ ν) : Prop where
  S_pos : 0 < c.S
  M_pow : ∃ m, c.M = 2 ^ m
  cur_wf : t.cur.WF c
  locks_pow : ∃ j, t.locks.size = 2 ^ j
  locks_le : t.locks.size ≤ c.M
  locks_ge : min (2 ^ t.hp) c.M ≤ t.locks.size
  pending : 0 < t.nUnmig → ∃ o, t.old = some o ∧ o.WF c ∧ o.hp + 1 = t.hp ∧ c.M ≤ 2 ^ o.hp ∧ t.locks.size = c.M
  unmig_empty : ∀ b s, t.unmigB c b = true → t.cur.get c.S b s = none
  uniq : ∀ p p' sl sl', t.at c p = some sl → t.at c p' = some sl' → sl.key = sl'.key → p = p'
  limit : t.mhp = noMaxHp ∨ t.hp ≤ t.mhp

theorem Inv.toW {c : Cfg κ} {t : Table κ ν} (h : Inv c t) : WInv c t :=
  ⟨h.S_pos, h.M_pow, h.cur_wf, h.locks_pow, h.locks_le, h.locks_ge,
   fun hp => h.pending (by rw [h.rem_eq]; exact hp), h.unmig_empty, h.uniq, h.limit⟩

theorem WInv.toInv {c : Cfg κ} {t : Table κ ν} (h : WInv c t) (hr : t.rem = t.nUnmig) : Inv c t :=
  ⟨h.S_pos, h.M_pow, h.cur_wf, h.locks_pow, h.locks_le, h.locks_ge, hr,
   fun hp => h.pending (by rw [← hr]; exact hp), h.unmig_empty, h.uniq, h.limit⟩

theorem unmigB_of (c : Cfg κ) (t : Table κ ν) (b l : Nat) (lk : Lock) (hb : b % c.M = l)
    (hlk : t.locks[l]? = some lk) (hm : lk.migrated = false) : t.unmigB c b = true :=
  unmigB_eq_true.mpr ⟨lk, (show c.lockInd b = l from hb) ▸ hlk, hm⟩

/-- the write trace of `rehash_lock` on an un-migrated stripe -/
def rehashWrites (c : Cfg κ) (t : Table κ ν) (l : Nat) (o : Store κ ν) : List (Write κ ν) :=
  stripeWrites c o t.cur.hp c.M ((2 ^ o.hp + c.M - 1 - l) / c.M) l

theorem WInv.stripe {c : Cfg κ} {t : Table κ ν} {l : Nat} {lk : Lock} {o : Store κ ν} (hw : WInv c t)
    (hlk : t.locks[l]? = some lk) (hmig : lk.migrated = false) (hold : t.old = some o) :
    o.WF c ∧ o.hp + 1 = t.hp ∧ l < c.M ∧ c.M ∣ 2 ^ o.hp ∧
    ∀ b s, b % c.M = l → t.cur.get c.S b s = none := by
  obtain ⟨m, hM⟩ := hw.M_pow
  obtain ⟨o', ho', howf, hohp, hMle, hlsz⟩ := hw.pending (nUnmig_pos_of t l lk hlk hmig)
  rw [hold] at ho'; cases ho'
  have hm : m ≤ o.hp := by
    rw [hM] at hMle
    exact (Nat.pow_le_pow_iff_right (by decide : 1 < 2)).mp hMle
  exact ⟨howf, hohp, hlsz ▸ (Array.getElem?_eq_some_iff.mp hlk).1, hM ▸ Nat.pow_dvd_pow 2 hm,
    fun b s hb => hw.unmig_empty b s (unmigB_of c t b l lk hb hlk hmig)⟩

theorem WInv.old_stripe {c : Cfg κ} {t : Table κ ν} (hw : WInv c t) {o : Store κ ν} (ho : t.old = some o)
    {b s : Nat} {sl : Slot κ ν} (hu : t.unmigB c b = true) (hg : o.get c.S b s = some sl) :
    t.unmigB c (c.i1 t.hp sl.key) = true ∨ t.unmigB c (c.i2 t.hp sl.key) = true := by
  obtain ⟨lk, hlk, hm⟩ := unmigB_eq_true.mp hu
  obtain ⟨hwf, hhp, _, hd, _⟩ := hw.stripe hlk hm ho
  have red : ∀ x, x % 2 ^ o.hp % c.M = x % c.M := fun x => Nat.mod_mod_of_dvd x hd
  rw [← hhp]
  have same : ∀ x, x % c.M = b % c.M → t.unmigB c x = true := fun x hx =>
    hu ▸ unmigB_congr (by rw [show c.lockInd x = c.lockInd b from hx])
  refine (hwf.place b s sl hg).2.imp (fun e => same _ ?_) (fun e => same _ ?_)
  · rw [e, ← red (c.i1 (o.hp + 1) sl.key), i1_double_mod]
  · rw [e, ← red (c.i2 (o.hp + 1) sl.key), i2_double_mod]

theorem at_old_stripe (c : Cfg κ) (t : Table κ ν) (l : Nat) (lk : Lock) (o : Store κ ν)
    (hlk : t.locks[l]? = some lk) (hmig : lk.migrated = false) (hold : t.old = some o) (b s : Nat) (hb : b % c.M = l) :
    t.at c (.old b s) = o.get c.S b s := by
  simp only [Table.at, hold, unmigB_of c t b l lk hb hlk hmig, if_true]

/-- one stripe migration (`rehash_lock` on an un-migrated stripe `l`) by its write trace: the writes construct into
empty cells of stripe `l` of the current array; each copies a cell of an old bucket of the stripe into a candidate
bucket of its key; every such cell is copied; different cells give different writes -/
theorem rehashWrites_spec (c : Cfg κ) (t : Table κ ν) (l : Nat) (lk : Lock) (o : Store κ ν)
    (hw : WInv c t) (hlk : t.locks[l]? = some lk) (hmig : lk.migrated = false) (hold : t.old = some o) :
    Constructs c.S t.cur (rehashWrites c t l o) ∧
    (∀ w ∈ rehashWrites c t l o, w.1 % c.M = l ∧ w.2.2.tag = c.tag w.2.2.key ∧
      (w.1 = c.i1 t.hp w.2.2.key ∨ w.1 = c.i2 t.hp w.2.2.key)) ∧
    (∀ w ∈ rehashWrites c t l o, ∃ b s, b % c.M = l ∧ b < 2 ^ o.hp ∧ o.get c.S b s = some w.2.2) ∧
    (∀ b s sl, b % c.M = l → o.get c.S b s = some sl → ∃ w ∈ rehashWrites c t l o, w.2.2 = sl) ∧
    (rehashWrites c t l o).Pairwise (fun w w' => w.2.2.key ≠ w'.2.2.key) := by
  obtain ⟨howf, hohp, hl, hd, hemp⟩ := hw.stripe hlk hmig hold
  have idx := fun b => stripe_iff c.M (2 ^ o.hp) l b hl
  have hbd : ∀ i, i < (2 ^ o.hp + c.M - 1 - l) / c.M → l + i * c.M < 2 ^ o.hp ∧ (l + i * c.M) % c.M = l :=
    fun i hi => (idx _).mp ⟨i, hi, rfl⟩
  have src : ∀ w ∈ rehashWrites c t l o, _ := fun w hwm =>
    stripeWrites_src c o c.M _ l howf w (by rw [hohp]; exact hwm)
  refine ⟨stripeWrites_constructs c o t.cur c.M _ l hw.cur_wf.size hohp.symm (Nat.zero_lt_of_lt hl) (fun i hi => (hbd i hi).1)
    (fun i s hi => ⟨hemp _ _ (hbd i hi).2, hemp _ _ ((add_mod_of_dvd hd _).trans (hbd i hi).2)⟩), ?_, ?_, ?_, ?_⟩
  · intro w hwm
    obtain ⟨ht, hcand, _⟩ := src w hwm
    exact ⟨(stripeWrites_stripe c o _ l hl hd w hwm).2, ht, hohp ▸ hcand⟩
  · intro w hwm
    obtain ⟨_, _, i, s, hi, hg⟩ := src w hwm
    exact ⟨_, s, (hbd i hi).2, (hbd i hi).1, hg⟩
  · intro b s sl hb hg
    obtain ⟨i, hi, e⟩ := (idx b).mpr ⟨Store.get_some_bucket_lt howf.size hg, hb⟩
    rw [e] at hg
    exact stripeWrites_complete c o _ c.M _ l i s sl hi hg
  · apply stripeWrites_keys
    intro i j s s' sl sl' hi hj hg hg' e
    have := hw.uniq (.old _ s) (.old _ s') sl sl'
      ((at_old_stripe c t l lk o hlk hmig hold _ s (hbd i hi).2).trans hg)
      ((at_old_stripe c t l lk o hlk hmig hold _ s' (hbd j hj).2).trans hg') e
    simp only [Loc.old.injEq] at this
    exact ⟨Nat.eq_of_mul_eq_mul_right (Nat.zero_lt_of_lt hl) (Nat.add_left_cancel this.1), this.2⟩

def Loc.bkt : Loc → Nat
  | .cur b _ => b
  | .old b _ => b

/-- Migrating a set `P` of un-migrated buckets, for any tables: `T` arises from `t` by constructing the writes `ws`
into the current array and flagging the buckets of `P`.  If every write goes to a bucket of `P`, a candidate of its key,
and copies a live cell of `P` in the old array, every such cell is copied, and the copies have different keys, then the
weak invariant and the live view are kept. -/
theorem WInv.relocate {c : Cfg κ} {t T : Table κ ν} {ws : List (Write κ ν)} {P : Nat → Prop}
    (hw : WInv c t) (hsc : Scal t T) (hold : T.old = t.old)
    (hC : Constructs c.S t.cur ws) (hcur : T.cur = ws.foldl (applyW c.S) t.cur)
    (hun : ∀ b, T.unmigB c b = true ↔ ¬ P b ∧ t.unmigB c b = true)
    (hP : ∀ b, P b → t.unmigB c b = true)
    (tgt : ∀ w ∈ ws, P w.1 ∧ w.2.2.tag = c.tag w.2.2.key ∧
      (w.1 = c.i1 t.hp w.2.2.key ∨ w.1 = c.i2 t.hp w.2.2.key))
    (src : ∀ w ∈ ws, ∃ b s, P b ∧ t.at c (.old b s) = some w.2.2)
    (compl : ∀ b s sl, P b → t.at c (.old b s) = some sl → ∃ w ∈ ws, w.2.2 = sl)
    (keys : ws.Pairwise (fun w w' => w.2.2.key ≠ w'.2.2.key))
    (hpend : 0 < T.nUnmig → 0 < t.nUnmig) :
    WInv c T ∧ ∀ sl, T.Live c sl ↔ t.Live c sl := by
  -- the cells of the new current array: what the trace writes, and what was there
  have cells : ∀ b s sl, T.cur.get c.S b s = some sl ↔ (b, s, sl) ∈ ws ∨ t.cur.get c.S b s = some sl := by
    intro b s sl; rw [hcur]; exact fold_get hC b s sl
  have hat1 : ∀ b s sl, T.at c (.old b s) = some sl ↔ (¬ P b ∧ t.at c (.old b s) = some sl) := by
    intro b s sl
    rw [at_old_some_iff, at_old_some_iff, hold]
    exact ⟨fun ⟨o, h1, h2, h4⟩ => ⟨((hun b).mp h2).1, o, h1, ((hun b).mp h2).2, h4⟩,
      fun ⟨h2, o, h1, h3, h4⟩ => ⟨o, h1, (hun b).mpr ⟨h2, h3⟩, h4⟩⟩
  -- every new live cell is an old live cell outside `P`, or was written
  have origin : ∀ p sl, T.at c p = some sl →
      (t.at c p = some sl ∧ ¬ P p.bkt) ∨ (∃ w ∈ ws, p = .cur w.1 w.2.1 ∧ sl = w.2.2) := by
    intro p sl hp
    cases p with
    | cur b s =>
      rcases (cells b s sl).mp hp with h | h
      · exact .inr ⟨_, h, rfl, rfl⟩
      · exact .inl ⟨h, fun hb => by rw [hw.unmig_empty b s (hP b hb)] at h; cases h⟩
    | old b s =>
      obtain ⟨h1, h2⟩ := (hat1 b s sl).mp hp
      exact .inl ⟨h2, h1⟩
  -- the key of a written element differs from that of every live cell outside `P`
  have apart : ∀ p sl w, t.at c p = some sl → ¬ P p.bkt → w ∈ ws → sl.key ≠ w.2.2.key := by
    intro p sl w hp hne hwm hk
    obtain ⟨b, s, hb, hsrc⟩ := src w hwm
    rw [hw.uniq _ _ _ _ hp hsrc hk] at hne
    exact hne hb
  refine ⟨⟨hw.S_pos, hw.M_pow, ⟨?_, ?_⟩, ?_, ?_, ?_, ?_, ?_, ?_, ?_⟩, fun sl => ⟨?_, ?_⟩⟩
  · rw [hsc.csize]; show _ = 2 ^ T.hp * _; rw [hsc.hp]; exact hw.cur_wf.size
  · intro b s sl hg
    show _ ∧ (b = c.i1 T.hp _ ∨ b = c.i2 T.hp _)
    rw [hsc.hp]
    rcases (cells b s sl).mp hg with h | h
    · exact (tgt _ h).2
    · exact hw.cur_wf.place b s sl h
  · rw [hsc.nlocks]; exact hw.locks_pow
  · rw [hsc.nlocks]; exact hw.locks_le
  · rw [hsc.nlocks, hsc.hp]; exact hw.locks_ge
  · intro h
    rw [hsc.hp, hsc.nlocks, hold]
    exact hw.pending (hpend h)
  · intro b s hu
    obtain ⟨hb, hu⟩ := (hun b).mp hu
    cases hg : T.cur.get c.S b s with
    | none => rfl
    | some sl =>
      rcases (cells b s sl).mp hg with h | h
      · exact absurd (tgt _ h).1 hb
      · rw [hw.unmig_empty b s hu] at h; cases h
  · intro p p' sl sl' h1 h2 hk
    rcases origin p sl h1 with ⟨hp, hout⟩ | ⟨w, hwm, e, es⟩ <;>
      rcases origin p' sl' h2 with ⟨hp', hout'⟩ | ⟨w', hwm', e', es'⟩
    · exact hw.uniq p p' sl sl' hp hp' hk
    · exact absurd (es' ▸ hk) (apart p sl w' hp hout hwm')
    · exact absurd (es ▸ hk.symm) (apart p' sl' w hp' hout' hwm)
    · have := eq_of_pairwise_ne (f := fun w : Write κ ν => w.2.2.key) keys hwm hwm' (by rw [← es, ← es']; exact hk)
      rw [e, e', this]
  · rw [hsc.mhp, hsc.hp]; exact hw.limit
  · rintro ⟨p, hp⟩
    rcases origin p sl hp with ⟨hp0, _⟩ | ⟨w, hwm, _, es⟩
    · exact ⟨p, hp0⟩
    · obtain ⟨b, s, _, hsrc⟩ := src w hwm
      exact ⟨_, es ▸ hsrc⟩
  · rintro ⟨p, hp⟩
    cases p with
    | cur b s => exact ⟨.cur b s, (cells b s sl).mpr (.inr hp)⟩
    | old b s =>
      by_cases hb : P b
      · obtain ⟨w, hwm, e⟩ := compl b s sl hb hp
        exact ⟨.cur w.1 w.2.1, (cells _ _ _).mpr (.inl (e ▸ hwm))⟩
      · exact ⟨.old b s, (hat1 b s sl).mpr ⟨hb, hp⟩⟩

end Cuckoo.Model
