import Cuckoo.Proofs.Resize.Double
/-!
The table that `operator>>` builds (stream serialization, C12), field by field.
-/
namespace Cuckoo.Model
open Cuckoo
variable {κ ν : Type}

/-- the table after `maybe_resize_locks` in `operator>>` -/
def Table.readMrl (c : Cfg κ) (t : Table κ ν) (s : Wire κ ν) : Table κ ν :=
  ({ t with cur := ⟨s.hp, s.cells⟩ } : Table κ ν).maybeResizeLocks c (2 ^ s.hp)

/-- the lock array `operator>>` leaves -/
def Table.readLocks (c : Cfg κ) (t : Table κ ν) (s : Wire κ ν) : Array Lock :=
  if s.size > 0 then
    ((t.readMrl c s).locks.map (fun (l : Lock) => { l with cnt := 0 })).modify 0 (fun (l : Lock) => { l with cnt := (s.size : Int) })
  else (t.readMrl c s).locks.map (fun (l : Lock) => { l with cnt := 0 })

/-- everything `operator>>` does before the two setters -/
def Table.readCore (c : Cfg κ) (bump : Bool) (t : Table κ ν) (s : Wire κ ν) : Table κ ν :=
  { t with cur := ⟨s.hp, s.cells⟩, locks := t.readLocks c s,
           oldGens := (t.readMrl c s).oldGens, rc := if bump then t.rc + 1 else t.rc }

/-- the two setters `operator>>` ends with -/
def Table.setLimits (t : Table κ ν) (x : Float) (y : Nat) : Table κ ν × Res Unit :=
  match t.setMlf x with
  | (t, .err e) => (t, .err e)
  | (t, .ok _) => t.setMhp y

theorem maybeResizeLocks_eta (c : Cfg κ) (t : Table κ ν) (n : Nat) :
    t.maybeResizeLocks c n =
      { t with locks := (t.maybeResizeLocks c n).locks, oldGens := (t.maybeResizeLocks c n).oldGens } := by
  rw [maybeResizeLocks_eq]; split <;> rfl

theorem read_core_eq (c : Cfg κ) (bump : Bool) (t : Table κ ν) (s : Wire κ ν) :
    t.read c bump s = (t.readCore c bump s).setLimits s.mlf s.mhp := by
  unfold Table.read Table.readCore Table.readLocks Table.setLimits
  dsimp only
  rw [show ({ t with cur := ⟨s.hp, s.cells⟩ } : Table κ ν).maybeResizeLocks c (2 ^ s.hp) = t.readMrl c s from rfl,
    show t.readMrl c s = _ from maybeResizeLocks_eta c _ _]
  cases bump <;> by_cases hs : s.size > 0 <;> simp only [hs, if_true, if_false] <;> rfl

theorem readLocks_size (c : Cfg κ) (t : Table κ ν) (s : Wire κ ν) :
    (t.readLocks c s).size = (t.readMrl c s).locks.size := by
  unfold Table.readLocks
  split <;> simp

theorem readLocks_mig (c : Cfg κ) (t : Table κ ν) (s : Wire κ ν) (i : Nat) :
    ((t.readLocks c s)[i]?).map Lock.migrated = ((t.readMrl c s).locks[i]?).map Lock.migrated := by
  unfold Table.readLocks
  split
  · rw [Array.getElem?_modify, Array.getElem?_map]
    cases (t.readMrl c s).locks[i]? <;> by_cases h : 0 = i <;> simp [h]
  · rw [Array.getElem?_map]
    cases (t.readMrl c s).locks[i]? <;> simp

theorem foldl_cnt_zero (l : List Lock) (acc : Int) :
    (l.map (fun (l : Lock) => ({ l with cnt := 0 } : Lock))).foldl (fun s x => s + x.cnt) acc = acc :=
  foldl_cnt_of_zero _ (fun x hx => by obtain ⟨y, _, rfl⟩ := List.mem_map.mp hx; rfl) acc

theorem readLocks_sum (c : Cfg κ) (t : Table κ ν) (s : Wire κ ν) (hne : 0 < (t.readMrl c s).locks.size) :
    (t.readLocks c s).foldl (fun s l => s + l.cnt) (0 : Int) = (s.size : Int) := by
  unfold Table.readLocks
  split
  · rw [← Array.foldl_toList, Array.toList_modify, Array.toList_map]
    cases hl : (t.readMrl c s).locks.toList with
    | nil =>
      have : (t.readMrl c s).locks.toList.length = 0 := by rw [hl]; rfl
      rw [Array.length_toList] at this
      omega
    | cons x xs =>
      simp only [List.map_cons, List.modify_zero_cons, List.foldl_cons, Int.zero_add, foldl_cnt_zero]
  · rename_i h
    rw [← Array.foldl_toList, Array.toList_map, foldl_cnt_zero]
    omega

theorem readMrl_grown (c : Cfg κ) (t : Table κ ν) (s : Wire κ ν) :
    Rz.Grown ({ t with cur := ⟨s.hp, s.cells⟩ } : Table κ ν) (t.readMrl c s) :=
  maybeResizeLocks_spec ..

theorem readLocks_allMig (c : Cfg κ) (t : Table κ ν) (s : Wire κ ν) (h : AllMig t) (i : Nat) (lk : Lock)
    (hlk : (t.readLocks c s)[i]? = some lk) : lk.migrated = true := by
  have h1 := readLocks_mig c t s i
  rw [hlk, Option.map_some, eq_comm, Option.map_eq_some_iff] at h1
  obtain ⟨lk', h2, e⟩ := h1
  exact e ▸ (readMrl_grown c t s).allmig h i lk' h2

theorem readCore_sumCnt (c : Cfg κ) (bump : Bool) (t : Table κ ν) (s : Wire κ ν) (h : Inv c t) :
    (t.readCore c bump s).sumCnt = (s.size : Int) :=
  readLocks_sum c t s (Nat.lt_of_lt_of_le h.locks_pos (readMrl_grown c t s).size_le)

theorem setLimits_locks (t : Table κ ν) (x : Float) (y : Nat) :
    (t.setLimits x y).1.locks = t.locks ∧ (t.setLimits x y).1.rc = t.rc := by
  unfold Table.setLimits Table.setMlf
  by_cases h1 : x < 0.0
  · rw [if_pos h1]; exact ⟨rfl, rfl⟩
  · rw [if_neg h1]
    by_cases h2 : x > 1.0
    · rw [if_pos h2]; exact ⟨rfl, rfl⟩
    · rw [if_neg h2]
      dsimp only
      unfold Table.setMhp
      split <;> exact ⟨rfl, rfl⟩

theorem read_locks (c : Cfg κ) (bump : Bool) (t : Table κ ν) (s : Wire κ ν) :
    (t.read c bump s).1.locks = t.readLocks c s ∧ (t.read c bump s).1.rc = if bump then t.rc + 1 else t.rc := by
  rw [read_core_eq]
  exact setLimits_locks _ _ _

theorem read_ok (c : Cfg κ) (bump : Bool) (t : Table κ ν) (s : Wire κ ν)
    (hmlf : (s.mlf < 0.0) = false ∧ (s.mlf > 1.0) = false) (hhp : s.hp ≤ s.mhp) :
    t.read c bump s = ({ (t.readCore c bump s) with mlf := s.mlf, mhp := s.mhp }, .ok ()) := by
  rw [read_core_eq]
  unfold Table.setLimits Table.setMlf
  rw [if_neg (by rw [hmlf.1]; simp), if_neg (by rw [hmlf.2]; simp)]
  dsimp only
  exact if_neg (Nat.not_lt.mpr hhp)

/-- the table `operator>>` produces when both setters accept the recorded settings -/
def Table.readFinal (c : Cfg κ) (bump : Bool) (dst src : Table κ ν) : Table κ ν :=
  { (dst.readCore c bump src.write) with mlf := src.mlf, mhp := src.mhp }

theorem readFinal_cur (c : Cfg κ) (bump : Bool) (dst src : Table κ ν) : (dst.readFinal c bump src).cur = src.cur := rfl

theorem readFinal_allMig (c : Cfg κ) (bump : Bool) (dst src : Table κ ν) (hdl : AllMig dst) :
    AllMig (dst.readFinal c bump src) :=
  fun i lk hlk => readLocks_allMig c dst src.write hdl i lk hlk

theorem readFinal_live (c : Cfg κ) (bump : Bool) (dst src : Table κ ν) (hsl : AllMig src) (hdl : AllMig dst)
    (sl : Slot κ ν) : (dst.readFinal c bump src).Live c sl ↔ src.Live c sl := by
  rw [(readFinal_allMig c bump dst src hdl).live_iff_cur,
    hsl.live_iff_cur, readFinal_cur]

theorem readFinal_inv (c : Cfg κ) (bump : Bool) (dst src : Table κ ν) (hs : Inv c src)
    (hd : Inv c dst) (hdl : AllMig dst) : Inv c (dst.readFinal c bump src) := by
  have hf := Rz.mrl_size c ({ dst with cur := ⟨src.write.hp, src.write.cells⟩ } : Table κ ν) src.write.hp hd.M_pow
    hd.locksFit
  -- (stating the rewrites is cheaper than letting `Inv.of_allMig` unfold `readFinal` in each argument)
  refine .of_allMig hd.S_pos hd.M_pow ?_ ?_ ?_ (readFinal_allMig c bump dst src hdl)
    (hd.rem_eq.trans hdl.nUnmig) hs.limit
  · rw [readFinal_cur]; exact hs.cur_wf
  · rw [readFinal_cur]; exact Rz.inv_curUniq hs
  · rw [show (dst.readFinal c bump src).locks.size = _ from readLocks_size c dst src.write]; exact hf

theorem readFinal_sumCnt (c : Cfg κ) (bump : Bool) (dst src : Table κ ν) (hd : Inv c dst) :
    (dst.readFinal c bump src).sumCnt = (src.size : Int) :=
  readCore_sumCnt c bump dst src.write hd

end Cuckoo.Model
