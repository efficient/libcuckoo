import Cuckoo.Proofs.Footprint.Commute
import Cuckoo.Props.C01Conc
/-!
# C03Frame — write footprint: a critical section writes only inside the stripes it locks

`Props/C01Red.lean` (two-phase-locking reduction over an abstract memory) shows that lock-holds are atomic *provided*
every data access of a hold touches only locations guarded by a stripe lock the thread holds.  This file supplies the
model-side half of that proviso for the **writes**: every atomic critical section of `Model/Conc.lean` that takes the
stripes of the buckets `B` leaves everything outside those stripes untouched, for **every** table satisfying the
invariant and **every** (stale) parameter — snapshot hashpower, resize counter, cuckoo-path records, key, functor.

`WritesWithin c L t t'` (`Model/Footprint.lean`), for a list `L` of stripe indices (`lock_ind(b) = b mod kMaxNumLocks`):

* every cell `(b, s)` of the current bucket array with `lock_ind b ∉ L` is unchanged;
* the element counter and the migrated flag of every stripe `l ∉ L` are unchanged;
* lock-array size, hashpower, bucket-array size, resize counter, superseded lock arrays, `minimum_load_factor`,
  `maximum_hashpower`, worker count: unchanged;
* the only shared scalars a stripe holder touches are the two migration ones, and only monotonically:
  `num_remaining_lazy_rehash_locks_` never increases (an atomic counter in the code), and `old_buckets_` is never
  rewritten — it is either left alone or released (`none`, exactly when the counter reaches 0).

The content is *stripe stability*: `rehash_lock(l)` moves the elements of the old buckets `b ≡ l (mod M)` into
buckets `b` and `b + 2^oldhp` of the current array; since `M = 2^m ≤ 2^oldhp` whenever a migration is pending
(`Inv.pending`), both belong to stripe `l` again.  All later writes of a section go to buckets computed from the same
inputs as its lock set (`i1`, `i2` of the hashpower the section locked with, `fr.bucket ∈ {i1, i2}`, `to.bucket`), at
slots `< SLOT_PER_BUCKET` (the model checks `to.slot < S` / `fr.slot < S` exactly where a stale slot number could
otherwise address a neighbouring bucket).

Whole-table sections (`doubleSec`, `rehashSec`, `reserveSec`) run under ALL locks of the lock array and change the
hashpower, the resize counter and possibly the lock array itself: they are *owner* sections and have no stripe
footprint (`rehashSec_has_no_stripe_footprint` below is a concrete instance).  `clearSec` keeps all of those and is
covered with `L` = all stripes (`clearSec_writes_within`).

Not covered here: *read* footprints (a section's result depends only on its stripes and the validated scalars); full
commutation of sections on disjoint stripes needs them (`Props/C03Comm.lean`).  `disjoint_sections_commute_on_cells`
states what the write footprints alone give.
-/
namespace Cuckoo.Props.C03Frame
open Cuckoo Cuckoo.Model Cuckoo.Model.Conc Cuckoo.Spec
variable {κ ν : Type}

theorem writes_within_refl (c : Cfg κ) (L : List Nat) (t : Table κ ν) : WritesWithin c L t t :=
  WritesWithin.refl c L t

/-- consecutive holds on the same stripes -/
theorem writes_within_trans {c : Cfg κ} {L : List Nat} {t t1 t2 : Table κ ν}
    (h1 : WritesWithin c L t t1) (h2 : WritesWithin c L t1 t2) : WritesWithin c L t t2 :=
  h1.trans h2

theorem writes_within_mono {c : Cfg κ} {L L2 : List Nat} {t t1 : Table κ ν}
    (h : WritesWithin c L t t1) (hsub : ∀ l, l ∈ L → l ∈ L2) : WritesWithin c L2 t t1 :=
  h.mono hsub

/-- consecutive holds on different stripes write within the union -/
theorem writes_within_append {c : Cfg κ} {L1 L2 : List Nat} {t t1 t2 : Table κ ν}
    (h1 : WritesWithin c L1 t t1) (h2 : WritesWithin c L2 t1 t2) : WritesWithin c (L1 ++ L2) t t2 :=
  h1.append h2

/-- `rehash_lock(l)` (lazy or not) writes only stripe `l`: the elements of the old buckets of stripe `l` land
in buckets of stripe `l` of the doubled array -/
theorem rehashLock_writes_within (c : Cfg κ) (t : Table κ ν) (l : Nat) (isLazy : Bool) (h : Inv c t) :
    WritesWithin c [l] t (t.rehashLock c l isLazy) :=
  ww_rehashLock c [l] t l isLazy h (List.mem_singleton.mpr rfl)

/-- the same from the two facts it really needs: `kMaxNumLocks` is a power of two that does not exceed the old bucket
count while stripe `l` is pending, and the lock array has at most `kMaxNumLocks` stripes -/
theorem rehashLock_writes_within_of_stable (c : Cfg κ) (t : Table κ ν) (m l : Nat) (isLazy : Bool) (hM : c.M = 2 ^ m)
    (hpend : ∀ lk o, t.locks[l]? = some lk → lk.migrated = false → t.old = some o →
      c.M ≤ 2 ^ o.hp ∧ t.locks.size ≤ c.M) :
    WritesWithin c [l] t (t.rehashLock c l isLazy) :=
  ww_rehashLock_of c t m l isLazy hM hpend

/-- `lock_one` / `lock_two` / `lock_three` on the buckets `bs` (any stale bucket numbers) write only the
stripes of `bs` -/
theorem lockSec_writes_within (c : Cfg κ) (bs : List Nat) (t : Table κ ν) (h : Inv c t) :
    WritesWithin c (bs.map c.lockInd) t (lockSec (ν := ν) c bs t).1 :=
  (par_lockSec c _ bs t t (fun _ hb => List.mem_map_of_mem hb) h h (.refl ..)).frame

/-- one hop of `cuckoopath_move`, for any snapshot and any two path records -/
theorem hopSec_writes_within (c : Cfg κ) (hpS rcS : Nat) (fr to : PathRec) (t : Table κ ν) (h : Inv c t) :
    WritesWithin c [c.lockInd fr.bucket, c.lockInd to.bucket] t (hopSec c hpS rcS fr to t).1 :=
  (par_hopSec c hpS rcS fr to t t h h (.refl ..)).2.frame

variable [DecidableEq κ]

/-- `find_fn` / `update_fn` / `erase_fn`: the two candidate stripes of the key under the current hashpower -/
theorem lookupSec_writes_within (c : Cfg κ) (canErase : Bool) (k : κ) (fn : ν → FnOut ν) (t : Table κ ν)
    (h : Inv c t) :
    WritesWithin c [c.lockInd (c.i1 t.hp k), c.lockInd (c.i2 t.hp k)] t (lookupSec c canErase k fn t).1 :=
  (par_lookupSec c canErase k fn t t h h (.refl ..)).2.frame

/-- the first section of an inserting call -/
theorem insertTrySec_writes_within (c : Cfg κ) (k : κ) (v : ν) (ctxAware mayErase : Bool) (fn : Ctx → ν → FnOut ν)
    (t : Table κ ν) (h : Inv c t) :
    WritesWithin c [c.lockInd (c.i1 t.hp k), c.lockInd (c.i2 t.hp k)] t
      (insertTrySec c k v ctxAware mayErase fn t).1 :=
  (par_insertTrySec c k v ctxAware mayErase fn t t h h (.refl ..)).2.frame

/-- the last section of a displacing insertion: the stripes of `i1`, `i2` under the *snapshot* hashpower `hpS`
and of `to.bucket` (`lastStripes`).  When the validation fails the section has only migrated the stripes it locked;
when it succeeds, `fr.bucket ∈ {i1, i2}` and `hpS` is the current hashpower, so the hop, the duplicate's functor call
and `add_to_bucket` stay inside -/
theorem insertLastSec_writes_within (c : Cfg κ) (hpS rcS : Nat) (k : κ) (v : ν) (ctxAware mayErase : Bool)
    (fn : Ctx → ν → FnOut ν) (fr : PathRec) (to : Option PathRec) (t : Table κ ν) (h : Inv c t) :
    WritesWithin c (lastStripes c hpS k to) t (insertLastSec c hpS rcS k v ctxAware mayErase fn fr to t).1 :=
  (par_insertLastSec c hpS rcS k v ctxAware mayErase fn fr to t t h h (.refl ..)).2.frame

omit [DecidableEq κ] in
/-- `clear()` holds every lock; it keeps hashpower, resize counter and lock array, so it has a footprint: all
stripes -/
theorem clearSec_writes_within (c : Cfg κ) (t : Table κ ν) (h : Inv c t) :
    WritesWithin c (List.range t.locks.size) t (clearSec (ν := ν) c t).1 :=
  ww_clear c t h

/-- a section together with the stripes it takes in a given state, and the proof that it writes only there -/
structure FSec (c : Cfg κ) (ν : Type) where
  call : C01Conc.Call κ ν
  f : Section κ ν
  stripes : Table κ ν → List Nat
  ok : C01Conc.SecOf c call f
  frame : ∀ t, Inv c t → WritesWithin c (stripes t) t (f t).1

theorem FSec.step {c : Cfg κ} (e : FSec c ν) {t : Table κ ν} {m : AMap κ ν} (h : Inv c t) (hr : Rel c t m) :
    ∃ m1, Inv c (e.f t).1 ∧ Rel c (e.f t).1 m1 :=
  have ⟨m1, i, r, _⟩ := e.ok.step h hr
  ⟨m1, i, r⟩

/-- every stripe section of `Model/Conc.lean` is one, for all parameters -/
def FSec.lock (c : Cfg κ) (call : C01Conc.Call κ ν) (bs : List Nat) : FSec c ν :=
  ⟨call, lockSec c bs, fun _ => bs.map c.lockInd, C01Conc.lockSec_sec c call bs, lockSec_writes_within c bs⟩
def FSec.hop (c : Cfg κ) (call : C01Conc.Call κ ν) (hpS rcS : Nat) (fr to : PathRec) : FSec c ν :=
  ⟨call, hopSec c hpS rcS fr to, fun _ => [c.lockInd fr.bucket, c.lockInd to.bucket],
   C01Conc.hopSec_sec c call hpS rcS fr to, hopSec_writes_within c hpS rcS fr to⟩
def FSec.lookup (c : Cfg κ) (canErase : Bool) (k : κ) (fn : ν → FnOut ν) : FSec c ν :=
  ⟨.lookup canErase k fn, lookupSec c canErase k fn, fun t => [c.lockInd (c.i1 t.hp k), c.lockInd (c.i2 t.hp k)],
   C01Conc.lookupSec_sec c canErase k fn, lookupSec_writes_within c canErase k fn⟩
def FSec.insertTry (c : Cfg κ) (k : κ) (v : ν) (ca me : Bool) (fn : Ctx → ν → FnOut ν) : FSec c ν :=
  ⟨.uprase k v ca me fn, insertTrySec c k v ca me fn, fun t => [c.lockInd (c.i1 t.hp k), c.lockInd (c.i2 t.hp k)],
   C01Conc.insertTrySec_sec c k v ca me fn, insertTrySec_writes_within c k v ca me fn⟩
def FSec.insertLast (c : Cfg κ) (hpS rcS : Nat) (k : κ) (v : ν) (ca me : Bool) (fn : Ctx → ν → FnOut ν)
    (fr : PathRec) (to : Option PathRec) : FSec c ν :=
  ⟨.uprase k v ca me fn, insertLastSec c hpS rcS k v ca me fn fr to, fun _ => lastStripes c hpS k to,
   C01Conc.insertLastSec_sec c hpS rcS k v ca me fn fr to, insertLastSec_writes_within c hpS rcS k v ca me fn fr to⟩

def stripesOf (c : Cfg κ) : Table κ ν → List (FSec c ν) → List Nat
  | _, [] => []
  | t, e :: es => e.stripes t ++ stripesOf c (e.f t).1 es

/-- along ANY schedule of stripe sections (any interleaving, any stale parameters) the table changes only inside the
stripes that were taken: every cell, counter and flag of every other stripe, the hashpower, the resize counter and
the lock array are those of the initial table -/
theorem schedule_writes_within (c : Cfg κ) (es : List (FSec c ν)) (t : Table κ ν) (m : AMap κ ν) (h : Inv c t)
    (hr : Rel c t m) : WritesWithin c (stripesOf c t es) t (exec t (es.map (·.f))).1 := by
  induction es generalizing t m with
  | nil => exact WritesWithin.refl c _ t
  | cons e rest ih =>
    obtain ⟨m1, i1, r1⟩ := e.step h hr
    exact (e.frame t h).append (ih (e.f t).1 m1 i1 r1)

omit [DecidableEq κ] in
/-- Two holds on disjoint stripe sets, in either order (`t →L1 t1 →L2 t12` and `t →L2 t2 →L1 t21`):
outside `L1 ∪ L2` both orders leave the initial cells and locks; inside `L1` the later hold on `L2` keeps exactly what
the hold on `L1` produced (and vice versa), and the hold on `L2` that runs first hands the `L1` stripes on untouched.
(That the `L1` part of `t21` equals the `L1` part of `t1` additionally needs the read footprint.) -/
theorem disjoint_sections_commute_on_cells {c : Cfg κ} {L1 L2 : List Nat} {t t1 t12 t2 t21 : Table κ ν}
    (hd : ∀ l, l ∈ L1 → l ∉ L2)
    (h1 : WritesWithin c L1 t t1) (h12 : WritesWithin c L2 t1 t12)
    (h2 : WritesWithin c L2 t t2) (h21 : WritesWithin c L1 t2 t21) :
    (∀ b s, c.lockInd b ∉ L1 → c.lockInd b ∉ L2 →
      t12.cur.get c.S b s = t.cur.get c.S b s ∧ t21.cur.get c.S b s = t.cur.get c.S b s) ∧
    (∀ l, l ∉ L1 → l ∉ L2 → t12.locks[l]? = t.locks[l]? ∧ t21.locks[l]? = t.locks[l]?) ∧
    (∀ b s, c.lockInd b ∈ L1 →
      t12.cur.get c.S b s = t1.cur.get c.S b s ∧ t2.cur.get c.S b s = t.cur.get c.S b s) ∧
    (∀ l, l ∈ L1 → t12.locks[l]? = t1.locks[l]? ∧ t2.locks[l]? = t.locks[l]?) ∧
    (∀ b s, c.lockInd b ∈ L2 →
      t21.cur.get c.S b s = t2.cur.get c.S b s ∧ t1.cur.get c.S b s = t.cur.get c.S b s) ∧
    (∀ l, l ∈ L2 → t21.locks[l]? = t2.locks[l]? ∧ t1.locks[l]? = t.locks[l]?) ∧
    t12.hp = t21.hp ∧ t12.rc = t21.rc ∧ t12.locks.size = t21.locks.size ∧ t12.oldGens = t21.oldGens := by
  have hd' : ∀ l, l ∈ L2 → l ∉ L1 := fun l h2 h1 => hd l h1 h2
  refine ⟨fun b s n1 n2 => ⟨(h12.cells b s n2).trans (h1.cells b s n1), (h21.cells b s n1).trans (h2.cells b s n2)⟩,
    fun l n1 n2 => ⟨(h12.locks l n2).trans (h1.locks l n1), (h21.locks l n1).trans (h2.locks l n2)⟩,
    fun b s m1 => ⟨h12.cells b s (hd _ m1), h2.cells b s (hd _ m1)⟩,
    fun l m1 => ⟨h12.locks l (hd _ m1), h2.locks l (hd _ m1)⟩,
    fun b s m2 => ⟨h21.cells b s (hd' _ m2), h1.cells b s (hd' _ m2)⟩,
    fun l m2 => ⟨h21.locks l (hd' _ m2), h1.locks l (hd' _ m2)⟩,
    ?_, ?_, ?_, ?_⟩
  · rw [h12.hp, h1.hp, h21.hp, h2.hp]
  · rw [h12.rc, h1.rc, h21.rc, h2.rc]
  · rw [h12.nlocks, h1.nlocks, h21.nlocks, h2.nlocks]
  · rw [h12.gens, h1.gens, h21.gens, h2.gens]

/-! ### non-vacuity: a concrete table with a pending migration -/

def cE : Cfg Nat := { S := 2, M := 2, hash := id, simple := true, nothrowMove := true, hpLimit := 10 }
def idFn : Ctx → Nat → FnOut Nat := fun _ v => .ret v false

/-- `cuckoohash_map(4)` (2 buckets), then `insert(0,0)`, `insert(1,10)`, `insert(2,20)`, `insert(3,30)`: full -/
def tFull : Table Nat Nat :=
  (exec (Table.init cE 4) [insertTrySec cE 0 0 false false idFn, insertTrySec cE 1 10 false false idFn,
    insertTrySec cE 2 20 false false idFn, insertTrySec cE 3 30 false false idFn]).1

/-- … then `cuckoo_fast_double`: 4 buckets, both stripes pending, all four elements still in the old array -/
def tPend : Table Nat Nat := (fastDouble cE false false 5 tFull 1).1

def keyAt (t : Table Nat Nat) (b s : Nat) : Option Nat := (t.cur.get cE.S b s).map (·.key)
def lockAt (t : Table Nat Nat) (l : Nat) : Option (Int × Bool) := t.locks[l]?.map (fun x => (x.cnt, x.migrated))
def keysOf (t : Table Nat Nat) : List (List (Option Nat)) :=
  (List.range 4).map (fun b => (List.range 2).map (keyAt t b))

theorem tFull_inv_rel : Inv cE tFull ∧ ∃ m, Rel cE tFull m := by
  obtain ⟨h0, r0⟩ := C02.init_refines (ν := Nat) cE 4 (by decide) ⟨1, rfl⟩
  obtain ⟨m, _, h, r⟩ := C01Conc.conc_linearizable cE
    [⟨.uprase 0 0 false false idFn, _, C01Conc.insertTrySec_sec cE 0 0 false false idFn⟩,
     ⟨.uprase 1 10 false false idFn, _, C01Conc.insertTrySec_sec cE 1 10 false false idFn⟩,
     ⟨.uprase 2 20 false false idFn, _, C01Conc.insertTrySec_sec cE 2 20 false false idFn⟩,
     ⟨.uprase 3 30 false false idFn, _, C01Conc.insertTrySec_sec cE 3 30 false false idFn⟩] _ [] h0 r0
  simp only [List.map] at h r
  exact ⟨h, m, r⟩

theorem tFull_inv : Inv cE tFull := tFull_inv_rel.1

/-- the hypotheses of the theorems are satisfiable by a table with a pending migration -/
theorem tPend_inv : Inv cE tPend := (fastDouble_post cE false false 5 tFull 1 tFull_inv (fun e => by cases e)).inv

theorem tPend_rel : ∃ m, Rel cE tPend m := by
  obtain ⟨m, r⟩ := tFull_inv_rel.2
  exact ⟨m, r.of_same (fastDouble_post cE false false 5 tFull 1 tFull_inv (fun e => by cases e)).same⟩

example : keysOf tPend = [[none, none], [none, none], [none, none], [none, none]] ∧
    lockAt tPend 0 = some (2, false) ∧ lockAt tPend 1 = some (2, false) ∧ tPend.rem = 2 ∧ tPend.old.isSome = true := by
  decide +kernel

/-- taking the stripe of bucket 0 really writes inside stripe 0 (buckets 0 and 2, flag of lock 0, `rem`) … -/
example : keysOf (lockSec (ν := Nat) cE [0] tPend).1 = [[none, some 0], [none, none], [some 2, none], [none, none]] ∧
    lockAt (lockSec (ν := Nat) cE [0] tPend).1 0 = some (2, true) ∧ (lockSec (ν := Nat) cE [0] tPend).1.rem = 1 := by
  decide +kernel

/-- … and, by the theorem, nothing of stripe 1 -/
example (s : Nat) : (lockSec (ν := Nat) cE [0] tPend).1.cur.get cE.S 3 s = tPend.cur.get cE.S 3 s ∧
    (lockSec (ν := Nat) cE [0] tPend).1.locks[1]? = tPend.locks[1]? :=
  ⟨(lockSec_writes_within cE [0] tPend tPend_inv).cells 3 s (by decide),
   (lockSec_writes_within cE [0] tPend tPend_inv).locks 1 (by decide)⟩

/-- the holder that migrates the last stripe releases the old array: the second alternative of `old` occurs -/
example : (lockSec (ν := Nat) cE [1] (lockSec (ν := Nat) cE [0] tPend).1).1.old.isSome = false ∧
    (lockSec (ν := Nat) cE [1] (lockSec (ν := Nat) cE [0] tPend).1).1.rem = 0 ∧
    keysOf (lockSec (ν := Nat) cE [1] (lockSec (ν := Nat) cE [0] tPend).1).1 =
      [[none, some 0], [none, none], [some 2, none], [some 3, some 1]] := by
  decide +kernel

/-- `erase(1)` on the pending table (both candidate buckets 1 and 3 of key 1 are in stripe 1): migrates stripe 1, erases
the key from bucket 3 and decrements the counter of stripe 1; stripe 0 stays pending -/
example : keysOf (lookupSec cE true 1 (fun v => .ret v true) tPend).1 =
      [[none, none], [none, none], [none, none], [some 3, none]] ∧
    lockAt (lookupSec cE true 1 (fun v => .ret v true) tPend).1 1 = some (1, true) ∧
    lockAt (lookupSec cE true 1 (fun v => .ret v true) tPend).1 0 = some (2, false) ∧
    (lookupSec cE true 1 (fun v => .ret v true) tPend).1.rem = 1 := by
  decide +kernel

/-- a hop on the pending table with arbitrary stale snapshot and slots, through the theorem: bucket 1 (stripe 1) is out
of reach of a hop between buckets 0 and 2 -/
example (s : Nat) (hpS rcS : Nat) (fr to : PathRec) (hf : fr.bucket = 0) (ht : to.bucket = 2) :
    (hopSec cE hpS rcS fr to tPend).1.cur.get cE.S 1 s = tPend.cur.get cE.S 1 s := by
  refine (hopSec_writes_within cE hpS rcS fr to tPend tPend_inv).cells 1 s ?_
  rw [hf, ht]
  decide

/-- a schedule on the pending table: an erase of key 1 (stripe 1), a stale hop between buckets 1 and 3 and the last
section of an insertion of key 5 with a stale snapshot take only stripe 1; whatever they do, stripe 0 stays pending
and its buckets stay empty -/
example (hpS rcS : Nat) (fr to : PathRec) (hf : fr.bucket = 1) (ht : to.bucket = 3) (s : Nat) :
    (exec tPend [lookupSec cE true 1 (fun v => .ret v true), hopSec cE hpS rcS fr to,
        insertLastSec cE 2 rcS 5 50 false false idFn fr none]).1.locks[0]? = tPend.locks[0]? ∧
    (exec tPend [lookupSec cE true 1 (fun v => .ret v true), hopSec cE hpS rcS fr to,
        insertLastSec cE 2 rcS 5 50 false false idFn fr none]).1.cur.get cE.S 2 s = tPend.cur.get cE.S 2 s := by
  obtain ⟨m, r0⟩ := tPend_rel
  have hw := schedule_writes_within cE
    [FSec.lookup cE true 1 (fun v => .ret v true), FSec.hop cE (.lookup true 1 (fun v => .ret v true)) hpS rcS fr to,
     FSec.insertLast cE 2 rcS 5 50 false false idFn fr none] tPend m tPend_inv r0
  simp only [List.map, FSec.lookup, FSec.hop, FSec.insertLast, stripesOf, hf, ht] at hw
  exact ⟨hw.locks 0 (by decide +kernel), hw.cells 2 s (by decide +kernel)⟩

/-- an owner section has no stripe footprint: `rehash(2)` on the full table changes the hashpower -/
theorem rehashSec_has_no_stripe_footprint (L : List Nat) : ¬ WritesWithin cE L tFull (rehashSec cE 2 tFull).1 :=
  fun h => absurd h.hp (by decide +kernel)

end Cuckoo.Props.C03Frame
