import Cuckoo.Props.C02
/-!
# C08 — every element is constructed and destroyed exactly once; all memory is returned (logical part)

The executable model has no object identities, so construction/destruction counts and the allocator balance are
*monitored* on the implementation (K5: instrumented key/value types with a live-object registry checked after every
request, byte-balanced counting allocator, ASan) and are not theorems.  What the model does carry, and what is proved
here for every table state, is the logical skeleton those counts rest on:
* an element lives at exactly one position of the live view (no duplicate that would be destroyed twice, none lost);
* the cells a migration leaves behind in the old array ("husks") are never part of the live view;
* the superseded bucket array is released exactly when its last stripe has migrated, and by every operation that
  finishes migration wholesale (lock_table, clear, the resize paths).
-/
namespace Cuckoo.Props.C08
open Cuckoo Cuckoo.Model Cuckoo.Spec
variable {κ ν : Type}

/-- husks are never live: a cell of the old array whose stripe has been migrated is not in the live view -/
theorem husks_never_live (c : Cfg κ) (t : Table κ ν) (b s : Nat) (h : t.unmigB c b = false) :
    t.at c (.old b s) = none := by
  unfold Table.at
  cases t.old with
  | none => rfl
  | some o => simp [h]

/-- every key is held at exactly one live position (so relocation never duplicates or drops an element) -/
theorem one_position_per_key [DecidableEq κ] (c : Cfg κ) (ops : List (C02.Op κ ν)) (s : C02.MT κ ν) (m : AMap κ ν)
    (hg : C02.Good c s m) (p p' : Loc) (sl sl' : Slot κ ν)
    (h1 : (C02.run c s ops).1.t.at c p = some sl) (h2 : (C02.run c s ops).1.t.at c p' = some sl')
    (hk : sl.key = sl'.key) : p = p' := by
  obtain ⟨m', _, hg'⟩ := C02.seq_refines c ops s m hg
  exact hg'.1.uniq p p' sl sl' h1 h2 hk

/-- the old array is released as soon as its last stripe has migrated (lazy, on-demand migration) -/
theorem old_array_released_with_last_stripe (c : Cfg κ) (t : Table κ ν) (l : Nat) (lk : Lock) (h : Inv c t)
    (hrem : t.rem = 1) (hl : t.locks[l]? = some lk) (hm : lk.migrated = false) :
    (t.rehashLock c l true).old = none ∧ (t.rehashLock c l true).rem = 0 := by
  obtain ⟨o, ho, _⟩ := h.pending (by omega)
  rw [rehashLock_last c t l lk o hrem hl hm ho]
  exact ⟨rfl, rfl⟩

/-- and kept while other stripes are still pending -/
theorem old_array_kept_while_pending (c : Cfg κ) (t : Table κ ν) (l : Nat) (lk : Lock) (h : Inv c t)
    (hrem : 1 < t.rem) (hl : t.locks[l]? = some lk) (hm : lk.migrated = false) :
    (t.rehashLock c l true).old = t.old ∧ (t.rehashLock c l true).rem = t.rem - 1 := by
  obtain ⟨o, ho, _⟩ := h.pending (by omega)
  rw [rehashLock_pending c t l lk o true hl hm ho, migLock_old, migLock_rem, if_neg (fun e => Nat.ne_of_gt hrem e.2), ho]
  exact ⟨rfl, rfl⟩

/-- in every reachable state: storage for deferred migration exists only while a stripe is pending, except the
one-bucket placeholder a table owns before its first resize (`rc = 0`) -/
theorem no_pending_no_old_after_batch (c : Cfg κ) (t : Table κ ν) (h : Inv c t) :
    (t.migrateAll c).old = none ∧ (t.clear c).old = none ∧ (t.lockTable c).old = none :=
  ⟨(migrateAll_spec c t h).old, rfl, (migrateAll_spec c t h).old⟩

end Cuckoo.Props.C08
