import Cuckoo.Model.Objects
import Cuckoo.Props.C02
/-!
# C11 — copy, move, swap and assignment transfer the complete logical state

In the functional model a table is a value.  The defaulted copy/move constructors and assignments of the C++ class
are member-wise, so they are the identity on that value; `swap` is hand-written in the source and is modelled member
by member (`swapTables`: as repaired; `swapShipped`: as originally shipped, finding F6).  The theorems say that the
transferred value is a *complete* table state: it satisfies the invariant and represents the same abstract map —
including when the last doubling still has deferred migration pending and after several lock-array generations,
because `Inv`/`Rel` quantify over all such states — so every object involved is an ordinary working table afterwards
(C02 applies).  Which members the real special members transfer is tied by K2 (multi-object operations followed by
full-state digests and workloads on both objects).  Allocator instances and the three propagation policies are
modelled by `Obj`/`Policy` (Model/Objects.lean): which allocator each object ends up with, and that the
allocator-extended constructors — which rebuild the lock array instead of adopting the source's list when the
allocator differs — still hand over a complete table.  K2 runs the same requests against a build of the real table
with an identity-carrying allocator for each of the eight policy combinations and also checks that every block is
returned to the allocator instance it came from.
-/
namespace Cuckoo.Props.C11
open Cuckoo Cuckoo.Model Cuckoo.Spec
variable {κ ν : Type}

/-- a copy has equal contents and settings, and is a working table -/
theorem copy_equal (c : Cfg κ) (t : Table κ ν) (m : AMap κ ν) (h : Inv c t) (hr : Rel c t m) :
    Inv c t.copy ∧ Rel c t.copy m ∧ t.copy.mlf = t.mlf ∧ t.copy.mhp = t.mhp ∧ t.copy.workers = t.workers ∧
    t.copy.size = t.size :=
  ⟨h, hr, rfl, rfl, rfl, rfl⟩

/-- and is independent of its source: running any operations on the copy leaves the source's contents unchanged
(the source is the same value as before) -/
theorem copy_independent [DecidableEq κ] (c : Cfg κ) (t : Table κ ν) (m : AMap κ ν) (h : Inv c t) (hr : Rel c t m)
    (ops : List (C02.Op κ ν)) :
    Rel c t m ∧ ∃ m', C02.Good c (C02.run c ⟨t.copy, false⟩ ops).1 m' := by
  refine ⟨hr, ?_⟩
  obtain ⟨m', _, hg⟩ := C02.seq_refines c ops ⟨t.copy, false⟩ m ⟨h, hr, fun hh => by cases hh⟩
  exact ⟨m', hg⟩

/-- swap exchanges the complete state: each object afterwards is a well-formed table representing the other's
former contents, with the other's settings — for every pair of states, including pending deferred migration -/
theorem swap_exchanges_all (c : Cfg κ) (a b : Table κ ν) (ma mb : AMap κ ν)
    (ha : Inv c a) (hb : Inv c b) (hra : Rel c a ma) (hrb : Rel c b mb) :
    Inv c (swapTables a b).1 ∧ Rel c (swapTables a b).1 mb ∧ Inv c (swapTables a b).2 ∧ Rel c (swapTables a b).2 ma ∧
    (swapTables a b).1.mlf = b.mlf ∧ (swapTables a b).1.mhp = b.mhp ∧ (swapTables a b).2.mlf = a.mlf ∧
    (swapTables a b).2.mhp = a.mhp :=
  ⟨hb, hrb, ha, hra, rfl, rfl, rfl, rfl⟩

/-- the shipped swap left `old_buckets_` and the lazy-migration counter behind: when one table has migration pending
the result violates the bookkeeping clause of the invariant (`rem` = number of un-migrated stripes) -/
theorem swap_shipped_breaks_bookkeeping (c : Cfg κ) (a b : Table κ ν) (ha : Inv c a) (hb : Inv c b)
    (hpend : 0 < a.rem) (hnone : b.rem = 0) : ¬ Inv c (swapShipped a b).2 ∨ ¬ Inv c (swapShipped a b).1 := by
  left
  intro hinv
  have h1 := hinv.rem_eq
  have h2 := ha.rem_eq
  -- the lock array (hence the number of un-migrated stripes) stays with `a`, the counter comes from `b`
  have e1 : (swapShipped a b).2.rem = b.rem := rfl
  have e2 : (swapShipped a b).2.nUnmig = a.nUnmig := rfl
  rw [e1, e2, hnone] at h1
  omega

/-! ### allocator-aware special members -/

theorem rebased_inv (c : Cfg κ) (t : Table κ ν) (b : Bool) (h : Inv c t) : Inv c (t.rebased b) := by
  unfold Table.rebased
  cases b with
  | true => exact h
  | false => exact { h with }

theorem rebased_rel (c : Cfg κ) (t : Table κ ν) (b : Bool) (m : AMap κ ν) (h : Rel c t m) : Rel c (t.rebased b) m := by
  unfold Table.rebased
  cases b with
  | true => exact h
  | false => exact { h with }

/-- every constructor — plain or allocator-extended, with an equal or a different allocator — yields a working table
with the source's contents and settings, for every source state (pending migration, any lock-array history); the
allocator is the source's (plain forms) or the given one (extended forms) -/
theorem ctor_transfers_all (c : Cfg κ) (s : Obj κ ν) (a : Nat) (m : AMap κ ν) (h : Inv c s.t) (hr : Rel c s.t m) :
    (Inv c s.copyCtor.t ∧ Rel c s.copyCtor.t m ∧ s.copyCtor.alloc = s.alloc) ∧
    (Inv c (s.copyCtorA a).t ∧ Rel c (s.copyCtorA a).t m ∧ (s.copyCtorA a).alloc = a) ∧
    (Inv c s.moveCtor.t ∧ Rel c s.moveCtor.t m ∧ s.moveCtor.alloc = s.alloc) ∧
    (Inv c (s.moveCtorA a).t ∧ Rel c (s.moveCtorA a).t m ∧ (s.moveCtorA a).alloc = a) :=
  ⟨⟨h, hr, rfl⟩, ⟨rebased_inv c _ _ h, rebased_rel c _ _ m hr, rfl⟩, ⟨h, hr, rfl⟩,
   ⟨rebased_inv c _ _ h, rebased_rel c _ _ m hr, rfl⟩⟩

theorem ctor_keeps_settings (s : Obj κ ν) (a : Nat) :
    (s.copyCtorA a).t.mlf = s.t.mlf ∧ (s.copyCtorA a).t.mhp = s.t.mhp ∧ (s.copyCtorA a).t.workers = s.t.workers ∧
    (s.moveCtorA a).t.mlf = s.t.mlf ∧ (s.moveCtorA a).t.mhp = s.t.mhp ∧ (s.moveCtorA a).t.workers = s.t.workers ∧
    (s.copyCtorA a).t.size = s.t.size ∧ (s.moveCtorA a).t.size = s.t.size := by
  unfold Obj.copyCtorA Obj.moveCtorA Table.rebased Table.copy
  cases (a == s.alloc) <;> exact ⟨rfl, rfl, rfl, rfl, rfl, rfl, rfl, rfl⟩

/-- assignment under every propagation policy: the destination takes the source's complete state; its allocator is
replaced exactly when the policy says so -/
theorem assign_transfers_all (c : Cfg κ) (p : Policy) (d s : Obj κ ν) (m : AMap κ ν) (h : Inv c s.t) (hr : Rel c s.t m) :
    Inv c (Obj.copyAssign p d s).t ∧ Rel c (Obj.copyAssign p d s).t m ∧
    (Obj.copyAssign p d s).alloc = (if p.pocca then s.alloc else d.alloc) ∧
    Inv c (Obj.moveAssign p d s).t ∧ Rel c (Obj.moveAssign p d s).t m ∧
    (Obj.moveAssign p d s).alloc = (if p.pocma then s.alloc else d.alloc) :=
  ⟨h, hr, rfl, h, hr, rfl⟩

/-- without propagation the destination never changes its allocator — so its memory keeps coming from, and going
back to, the instance it was constructed with -/
theorem assign_keeps_allocator (d s : Obj κ ν) :
    (Obj.copyAssign ⟨false, false, false⟩ d s).alloc = d.alloc ∧ (Obj.moveAssign ⟨false, false, false⟩ d s).alloc = d.alloc :=
  ⟨rfl, rfl⟩

/-- swap under every policy for which the standard defines it: complete states exchanged, allocators exchanged
exactly when they propagate, and each object's allocator afterwards is one that owns its (exchanged) storage -/
theorem swap_with_allocators (c : Cfg κ) (p : Policy) (a b : Obj κ ν) (ma mb : AMap κ ν)
    (ha : Inv c a.t) (hb : Inv c b.t) (hra : Rel c a.t ma) (hrb : Rel c b.t mb) (hok : Obj.swapOK p a b = true) :
    Inv c (Obj.swap p a b).1.t ∧ Rel c (Obj.swap p a b).1.t mb ∧ Inv c (Obj.swap p a b).2.t ∧ Rel c (Obj.swap p a b).2.t ma ∧
    (Obj.swap p a b).1.alloc = b.alloc ∧ (Obj.swap p a b).2.alloc = a.alloc := by
  unfold Obj.swapOK at hok
  unfold Obj.swap
  cases hp : p.pocs with
  | true => exact ⟨hb, hrb, ha, hra, rfl, rfl⟩
  | false =>
    -- without propagation the swap is defined only for equal allocators
    rw [hp, Bool.false_or, beq_iff_eq] at hok
    exact ⟨hb, hrb, ha, hra, hok, hok.symm⟩

/-- self-assignment and self-swap leave the object as it was -/
theorem self_assign_identity (p : Policy) (a : Obj κ ν) :
    (Obj.copyAssign p a a).t = a.t ∧ (Obj.copyAssign p a a).alloc = a.alloc ∧
    (Obj.swap p a a).1.t = a.t ∧ (Obj.swap p a a).1.alloc = a.alloc := by
  unfold Obj.copyAssign Obj.swap swapTables Table.copy
  cases p.pocca <;> cases p.pocs <;> exact ⟨rfl, rfl, rfl, rfl⟩

example : Obj.swapOK ⟨false, false, false⟩ (⟨Table.init (κ := Nat) (ν := Nat) ⟨2, 4, id, true, true, 40⟩ 4, 1⟩)
    ⟨Table.init ⟨2, 4, id, true, true, 40⟩ 4, 1⟩ = true := rfl

/-- the repaired swap is an involution -/
theorem swap_swap (a b : Table κ ν) :
    swapTables (swapTables a b).1 (swapTables a b).2 = (a, b) := rfl

end Cuckoo.Props.C11
