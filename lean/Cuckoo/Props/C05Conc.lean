import Cuckoo.Props.C05
import Cuckoo.Props.C06Conc
/-!
# C05 (concurrent half) — size() and the derived statistics after ANY concurrent execution

`Props/C05.lean` covers single-threaded histories.  The property also says "this holds after any concurrent
execution".  At the granularity of `Model/Conc.lean` (atomic critical sections with arbitrary stale local data,
`Props/C01Conc.lean`) and with whole locked sections as additional atomic steps (`Props/C06Conc.lean`), every point
*between* two steps of a schedule is a point at which no section is running; the table reached there
represents the map obtained by the linearization, and therefore

* `size()` (the sum of the per-stripe counters) is the number of pairs of that map,
* `empty()` iff that map is empty,
* `capacity()` is `2^hashpower() * slot_per_bucket()` and is the real number of cells of the bucket array,

whatever the interleaving did to the bookkeeping: displacement between stripes by competing inserters, doubling with
deferred migration finished lazily by arbitrary threads, growth of the lock array, shrinking, clear, locked sections
that rebuilt or replaced the table.  (A state in the middle of a critical section is not quiescent and nothing is
claimed about it; that a lock-protected block of the code is one atomic step is `Props/C01Red.lean`.)
-/
namespace Cuckoo.Props.C05Conc
open Cuckoo Cuckoo.Model Cuckoo.Model.Conc Cuckoo.Spec
variable {κ ν : Type} [DecidableEq κ]

/-- after every interleaving of critical sections: `size()` = number of pairs of the linearized map, `empty()` iff it
is empty, and the capacity is exact -/
theorem size_exact_after_any_interleaving (c : Cfg κ) (evs : List (C01Conc.Ev c ν)) (t : Table κ ν) (m : AMap κ ν)
    (h : Inv c t) (hr : Rel c t m) :
    ∃ m', C01Conc.linRun m (evs.map (·.call)) (exec t (evs.map (·.f))).2 m' ∧
      (exec t (evs.map (·.f))).1.size = m'.length ∧
      ((exec t (evs.map (·.f))).1.size = 0 ↔ m' = []) ∧
      (exec t (evs.map (·.f))).1.cur.cells.size = 2 ^ (exec t (evs.map (·.f))).1.hp * c.S := by
  obtain ⟨m', h1, h2, h3⟩ := C01Conc.conc_linearizable c evs t m h hr
  exact ⟨m', h1, C05.size_eq_card c _ m' h3, C05.empty_iff c _ m' h3, (C05.capacity_eq c _ h2).2⟩

/-- the same with whole locked sections (growth, shrinking, clear, stream extraction inside a section) interleaved -/
theorem size_exact_with_locked_sections (c : Cfg κ) (evs : List (C06Conc.GEv c ν)) (t : Table κ ν) (m : AMap κ ν)
    (h : Inv c t) (hr : Rel c t m) :
    ∃ m', C06Conc.glin m evs (C06Conc.gexec c t evs).2 m' ∧
      (C06Conc.gexec c t evs).1.size = m'.length ∧
      ((C06Conc.gexec c t evs).1.size = 0 ↔ m' = []) ∧
      (C06Conc.gexec c t evs).1.cur.cells.size = 2 ^ (C06Conc.gexec c t evs).1.hp * c.S := by
  obtain ⟨m', h1, h2, h3⟩ := C06Conc.conc_with_sections_linearizable c evs t m h hr
  exact ⟨m', h1, C05.size_eq_card c _ m' h3, C05.empty_iff c _ m' h3, (C05.capacity_eq c _ h2).2⟩

/-- the sum of the counters is exact at EVERY cut of a schedule (every prefix of a schedule is a schedule), so a
counter that is moved to another stripe by one thread's displacement or migration and back by another's never makes
`size()` drift -/
theorem size_exact_at_every_cut (c : Cfg κ) (evs : List (C01Conc.Ev c ν)) (n : Nat) (t : Table κ ν) (m : AMap κ ν)
    (h : Inv c t) (hr : Rel c t m) :
    ∃ m', (exec t ((evs.take n).map (·.f))).1.size = m'.length ∧ Rel c (exec t ((evs.take n).map (·.f))).1 m' := by
  obtain ⟨m', _, _, h3⟩ := C01Conc.conc_linearizable c (evs.take n) t m h hr
  exact ⟨m', C05.size_eq_card c _ m' h3, h3⟩

/-- non-vacuity: two inserters and an eraser on one key, any parameters -/
example (c : Cfg Nat) (t : Table Nat Nat) (m : AMap Nat Nat) (h : Inv c t) (hr : Rel c t m) :
    ∃ m' : AMap Nat Nat, (exec t [insertTrySec c 1 2 false false (fun _ v => .ret v false),
                   lookupSec c true 1 (fun v => .ret v true),
                   insertTrySec c 1 3 false false (fun _ v => .ret v false)]).1.size = m'.length :=
  (size_exact_after_any_interleaving c
    [⟨.uprase 1 2 false false (fun _ v => .ret v false), _, C01Conc.insertTrySec_sec c 1 2 false false _⟩,
     ⟨.lookup true 1 (fun v => .ret v true), _, C01Conc.lookupSec_sec c true 1 _⟩,
     ⟨.uprase 1 3 false false (fun _ v => .ret v false), _, C01Conc.insertTrySec_sec c 1 3 false false _⟩] t m h hr).imp
    fun _ h => h.2.1

end Cuckoo.Props.C05Conc
