import Cuckoo.Model.ProtoLive
import Cuckoo.Proofs.ProtoInv
import Cuckoo.Proofs.LiveAux
/-!
# C04 (liveness side) — a call is sent back to retry only by a completed resize

For every execution accepted by the protocol acceptor together with rule L (`Model/ProtoLive.lean`), for any number of
threads, stripes and lock arrays and any schedule:
* the number of failed validations of a thread never exceeds the number of counter bumps (completed resizes);
* in a stretch of the execution without a completed resize no validation fails at all, i.e. every thread that gets its
  first lock proceeds;
so retry loops cannot spin on their own: ordinary operations of other threads (insert, erase, displacement, lazy
migration) never invalidate anybody's snapshot.  Together with deadlock freedom (`Props/C04.lean`) and the statically
bounded search (`Gen/Consts.lean`), what remains unproved for termination is fairness of the spinlocks themselves and
that the environment does not resize for ever.
-/
namespace Cuckoo.Props.C04Live
open Cuckoo.Proto

/-- the resize counter of the final state counts the bumps of the trace -/
theorem rc_counts_bumps (evs : List Ev) (s s' : PS) (l l' : LS) (h : runL s l evs = some (s', l')) :
    s'.rc = s.rc + bumps evs := by
  induction evs generalizing s l with
  | nil => cases h; rfl
  | cons e es ih =>
    obtain ⟨s1, l1, ha, -, h⟩ := runL_cons.1 h
    rw [ih s1 l1 h, accept_rc ha, bumps_cons, Nat.add_assoc]

/-- retries are bounded by completed resizes, for every thread and every accepted execution -/
theorem retries_bounded_by_resizes (hp n : Nat) (hn : 0 < n) (evs : List Ev) (s' : PS) (l' : LS)
    (h : runL (init hp n) LS.init evs = some (s', l')) (t : Tid) :
    l'.fails t ≤ bumps evs :=
  Nat.zero_add (bumps evs) ▸ runL_fails_le (linv_init hp n) h t

/-- a stretch without a completed resize: nobody's validation fails (stated for a stretch that starts in any reachable
state in which no thread is waiting with a snapshot that is already stale: here, every thread's snapshot is current) -/
theorem no_resize_no_retry (s : PS) (l : LS) (hs : Reach s) (hcur : ∀ t, (s.th t).snapRc = s.rc)
    (evs : List Ev) (hb : bumps evs = 0) (s' : PS) (l' : LS) (h : runL s l evs = some (s', l')) (t : Tid) :
    l'.fails t = l.fails t := by
  clear hs
  induction evs generalizing s l with
  | nil => cases h; rfl
  | cons e es ih =>
    rw [bumps_cons] at hb
    obtain ⟨s1, l1, ha, hl, h⟩ := runL_cons.1 h
    obtain ⟨h1, h2⟩ := cur_step hcur (by omega) ha hl
    rw [ih s1 l1 h1 (by omega) h, h2]

/-- the product run projects onto an accepted run of the safety acceptor (so every safety theorem applies to it) -/
theorem runL_run (evs : List Ev) (s s' : PS) (l l' : LS) (h : runL s l evs = some (s', l')) : run s evs = some s' := by
  induction evs generalizing s l with
  | nil => cases h; rfl
  | cons e es ih =>
    obtain ⟨s1, l1, ha, -, h⟩ := runL_cons.1 h
    exact run_cons_eq_some.2 ⟨s1, ha, ih s1 l1 h⟩

/-- non-vacuity: a thread fails one validation after one resize by another thread, and the bound is tight -/
example : (runL (init 2 2) LS.init
    [.rcLoad 0, .hpLoad 0, .genLoad 0,
     .allBegin 1, .acquire 1 ⟨0, 0⟩, .acquire 1 ⟨0, 1⟩, .allEnd 1, .storeHp 1 3, .bumpRc 1, .release 1 ⟨0, 1⟩, .release 1 ⟨0, 0⟩,
     .acquire 0 ⟨0, 0⟩, .rcLoad 0, .release 0 ⟨0, 0⟩]).map (fun p => p.2.fails 0) = some 1 := by
  decide +kernel

end Cuckoo.Props.C04Live
