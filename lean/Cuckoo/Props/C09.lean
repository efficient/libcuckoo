import Cuckoo.Props.C02
import Cuckoo.Proofs.Iter
/-!
# C09 — locked_table iteration enumerates each element exactly once, in both directions

Iterators of a `locked_table` are positions `(bucket, slot)` of the current bucket array; `begin()` is the
first occupied position, `end()` is `(2^hp, 0)`.  The statements are about an arbitrary store of the right
size (every layout: sparse, full, elements only in the first/last slot of the first/last bucket) and any
slots-per-bucket `S > 0`.
-/
namespace Cuckoo.Props.C09
open Cuckoo Cuckoo.Model Cuckoo.Spec
variable {κ ν : Type}

/-- the occupied positions in index order: what an iteration is supposed to visit -/
def occupiedPositions (S : Nat) (st : Store κ ν) : List Pos :=
  ((List.range (2 ^ st.hp * S)).filter (fun i => (st.cells.getD i none).isSome)).map (fun i => (i / S, i % S))

/-- forward traversal visits exactly the occupied positions, each once, in index order, and then reaches `end()` -/
theorem forward_visits_occupied_in_order (S : Nat) (st : Store κ ν) (hS : 0 < S) (hsz : st.cells.size = 2 ^ st.hp * S) :
    st.traverse S = occupiedPositions S st := by
  rw [st.traverse_eq S hsz, st.occFrom_zero S]; rfl

/-- backward traversal from `end()` visits the same positions in exactly the reverse order -/
theorem backward_is_reverse (S : Nat) (st : Store κ ν) (hS : 0 < S) (hsz : st.cells.size = 2 ^ st.hp * S) :
    st.traverseBack S = (occupiedPositions S st).reverse := by
  rw [st.traverseBack_eq S hS hsz, forward_visits_occupied_in_order S st hS hsz]

/-- every visited position holds an element, and every element is visited -/
theorem visited_iff_occupied (S : Nat) (st : Store κ ν) (hS : 0 < S) (hsz : st.cells.size = 2 ^ st.hp * S) (b s : Nat) :
    (b, s) ∈ st.traverse S ↔ ∃ sl, st.get S b s = some sl := by
  rw [st.traverse_eq_occPos S hsz]
  exact st.mem_occPos hS b s

/-- no position is visited twice -/
theorem traverse_nodup (S : Nat) (st : Store κ ν) (hS : 0 < S) (hsz : st.cells.size = 2 ^ st.hp * S) :
    (st.traverse S).Nodup :=
  st.traverse_nodup S hsz

/-- `begin() == end()` iff the table is empty -/
theorem begin_eq_end_iff_empty (S : Nat) (st : Store κ ν) (hS : 0 < S) (hsz : st.cells.size = 2 ^ st.hp * S) :
    st.itBegin S = st.endPos ↔ ∀ b s, st.get S b s = none := by
  rw [st.itBegin_eq_end_iff_nil S hsz, List.eq_nil_iff_forall_not_mem]
  constructor
  · intro h b s
    cases hg : st.get S b s with
    | none => rfl
    | some sl => exact absurd ((visited_iff_occupied S st hS hsz b s).mpr ⟨sl, hg⟩) (h _)
  · intro h p hp
    obtain ⟨sl, hg⟩ := (visited_iff_occupied S st hS hsz p.1 p.2).mp hp
    rw [h] at hg; cases hg

/-- iteration of a locked table yields exactly the pairs of the abstract map -/
theorem iteration_matches_map [DecidableEq κ] (c : Cfg κ) (t : Table κ ν) (m : AMap κ ν) (h : Inv c t) (hr : Rel c t m)
    (hl : AllMig t) (k : κ) (v : ν) :
    (k, v) ∈ m ↔ ∃ p ∈ t.cur.traverse c.S, ∃ sl, t.cur.get c.S p.1 p.2 = some sl ∧ sl.key = k ∧ sl.val = v := by
  rw [hr.pairs k v]
  constructor
  · rintro ⟨tag, hlive⟩
    obtain ⟨b, s, hg⟩ := (hl.live_iff_cur _).mp hlive
    exact ⟨(b, s), (visited_iff_occupied c.S t.cur h.S_pos h.cur_wf.size b s).mpr ⟨_, hg⟩, _, hg, rfl, rfl⟩
  · rintro ⟨p, _, sl, hg, rfl, rfl⟩
    exact ⟨sl.tag, (hl.live_iff_cur _).mpr ⟨p.1, p.2, hg⟩⟩

/-- and each key is met at exactly one visited position -/
theorem iteration_each_key_once [DecidableEq κ] (c : Cfg κ) (t : Table κ ν) (h : Inv c t) (p q : Pos)
    (hp : p ∈ t.cur.traverse c.S) (hq : q ∈ t.cur.traverse c.S) (sl sl' : Slot κ ν)
    (h1 : t.cur.get c.S p.1 p.2 = some sl) (h2 : t.cur.get c.S q.1 q.2 = some sl') (hk : sl.key = sl'.key) : p = q := by
  have := h.uniq (.cur p.1 p.2) (.cur q.1 q.2) sl sl' h1 h2 hk
  injection this with e1 e2
  exact Prod.ext e1 e2

/-- `find` agrees with the map: it returns the position of the key, or `end()` -/
theorem ltFind_agrees [DecidableEq κ] (c : Cfg κ) (t : Table κ ν) (m : AMap κ ν) (k : κ) (h : Inv c t) (hr : Rel c t m)
    (hl : AllMig t) :
    match m.lookup k with
    | some v => ∃ sl, t.cur.get c.S (t.ltFind c k).1 (t.ltFind c k).2 = some sl ∧ sl.key = k ∧ sl.val = v
    | none => t.ltFind c k = t.cur.endPos := by
  -- with the table locked, `locate` takes no lock and migrates nothing
  have hs := (locate_sim c true t m k h hr (fun _ => hl) (t1 := t) (pos := (t.locate c true k).2) rfl).2
  unfold Table.ltFind
  generalize (t.locate c true k).2 = r at hs ⊢
  obtain _ | ⟨b, s⟩ := r
  · rw [show m.lookup k = none from hs]
  · obtain ⟨sl, hg, hk, hv⟩ := hs
    rw [hv]
    show ∃ sl', t.cur.get c.S (t.cur.itAt c.S (b, s)).1 (t.cur.itAt c.S (b, s)).2 = some sl' ∧ _
    rw [Store.itAt_occ t.cur h.cur_wf.size hg]
    exact ⟨sl, hg, hk, rfl⟩

/-- `erase(it)` removes exactly the element at `it`, returns the position of its successor in iteration order,
and changes no other cell (so every other iterator stays valid) -/
theorem ltEraseAt_spec [DecidableEq κ] (c : Cfg κ) (t : Table κ ν) (m : AMap κ ν) (p : Pos) (sl : Slot κ ν)
    (h : Inv c t) (hr : Rel c t m) (hl : AllMig t) (hget : t.cur.get c.S p.1 p.2 = some sl) :
    Inv c (t.ltEraseAt c p).1 ∧ AllMig (t.ltEraseAt c p).1 ∧ Rel c (t.ltEraseAt c p).1 (m.erase sl.key) ∧
    (t.ltEraseAt c p).2 = t.cur.itNext c.S p ∧
    (∀ b s, (b, s) ≠ p → (t.ltEraseAt c p).1.cur.get c.S b s = t.cur.get c.S b s) ∧
    (t.ltEraseAt c p).1.cur.get c.S p.1 p.2 = none := by
  obtain ⟨b, s⟩ := p
  have ⟨hs, hlt⟩ := Store.get_some_lt hget
  have d := delFrom_sim c t m b s sl h hr hget
  exact ⟨d.inv, d.keeps.allmig hl, d.rel, Store.itAt_set_none t.cur h.cur_wf.size hget,
    fun b' s' hne => Store.get_set_other c.S t.cur b s b' s' none hs (fun hh => hne (by rw [hh.1, hh.2])),
    Store.get_set_same c.S t.cur b s none hs hlt⟩

/-! ### the remaining lookup members of the locked table: `count`, `at`, `equal_range`, `operator[]` -/

private theorem ltFind_absent [DecidableEq κ] (c : Cfg κ) (t : Table κ ν) (m : AMap κ ν) (k : κ) (h : Inv c t)
    (hr : Rel c t m) (hl : AllMig t) (hlk : m.lookup k = none) : t.ltFind c k = t.cur.endPos := by
  have hf := ltFind_agrees c t m k h hr hl
  rwa [hlk] at hf

private theorem ltFind_ne_end [DecidableEq κ] (c : Cfg κ) (t : Table κ ν) (m : AMap κ ν) (k : κ) (v : ν) (h : Inv c t)
    (hr : Rel c t m) (hl : AllMig t) (hlk : m.lookup k = some v) :
    t.ltFind c k ≠ t.cur.endPos ∧ ∃ sl, t.cur.get c.S (t.ltFind c k).1 (t.ltFind c k).2 = some sl ∧ sl.key = k ∧ sl.val = v := by
  have hf := ltFind_agrees c t m k h hr hl
  rw [hlk] at hf
  obtain ⟨sl, hg, hk, hv⟩ := hf
  refine ⟨fun he => ?_, sl, hg, hk, hv⟩
  rw [he] at hg
  exact Nat.lt_irrefl (2 ^ t.cur.hp) (Store.get_some_bucket_lt h.cur_wf.size hg)

/-- `count(key)` is 1 for a stored key and 0 otherwise -/
theorem ltCount_agrees [DecidableEq κ] (c : Cfg κ) (t : Table κ ν) (m : AMap κ ν) (k : κ) (h : Inv c t) (hr : Rel c t m)
    (hl : AllMig t) : t.ltCount c k = if (m.lookup k).isSome then 1 else 0 := by
  unfold Table.ltCount
  cases hlk : m.lookup k with
  | some v => simp [(ltFind_ne_end c t m k v h hr hl hlk).1]
  | none => simp [ltFind_absent c t m k h hr hl hlk]

/-- `at(key)` returns the value stored under the key and throws `std::out_of_range` exactly when the key is absent -/
theorem ltAt_agrees [DecidableEq κ] (c : Cfg κ) (t : Table κ ν) (m : AMap κ ν) (k : κ) (h : Inv c t) (hr : Rel c t m)
    (hl : AllMig t) :
    t.ltAt c k = (match m.lookup k with | some v => .ok v | none => .err .outOfRange) := by
  unfold Table.ltAt
  cases hlk : m.lookup k with
  | some v =>
    obtain ⟨hne, sl, hg, _, hv⟩ := ltFind_ne_end c t m k v h hr hl hlk
    simp [hne, hg, hv]
  | none => simp [ltFind_absent c t m k h hr hl hlk]

/-- `equal_range(key)`: for a stored key the half-open range `[find(key), successor)` — exactly that one element in
iteration order —, for an absent key the empty range `(end, end)` -/
theorem ltEqualRange_agrees [DecidableEq κ] (c : Cfg κ) (t : Table κ ν) (m : AMap κ ν) (k : κ) (h : Inv c t) (hr : Rel c t m)
    (hl : AllMig t) :
    match m.lookup k with
    | some _ => t.ltEqualRange c k = (t.ltFind c k, t.cur.itNext c.S (t.ltFind c k)) ∧ t.ltFind c k ≠ t.cur.endPos
    | none => t.ltEqualRange c k = (t.cur.endPos, t.cur.endPos) := by
  unfold Table.ltEqualRange
  cases hlk : m.lookup k with
  | some v =>
    have hne := (ltFind_ne_end c t m k v h hr hl hlk).1
    simp [hne]
  | none => simp [ltFind_absent c t m k h hr hl hlk]

/-- `operator[](key)`: a reference to the value stored under the key, which is the old value if the key was there and
a freshly inserted default-constructed one otherwise (possibly after growing the table) -/
theorem ltIndex_agrees [DecidableEq κ] (c : Cfg κ) (t : Table κ ν) (m : AMap κ ν) (k : κ) (dflt : ν) (h : Inv c t)
    (hr : Rel c t m) (hl : AllMig t) :
    Inv c (t.ltIndex c k dflt).1 ∧ AllMig (t.ltIndex c k dflt).1 ∧
    match (t.ltIndex c k dflt).2 with
    | .err e => ResizeErr e ∧ Rel c (t.ltIndex c k dflt).1 m
    | .ok (p, inserted) =>
      inserted = (m.lookup k).isNone ∧
      Rel c (t.ltIndex c k dflt).1 (if inserted then m.add k dflt else m) ∧
      ∃ sl, (t.ltIndex c k dflt).1.cur.get c.S p.1 p.2 = some sl ∧ sl.key = k ∧
        sl.val = (match m.lookup k with | some old => old | none => dflt) :=
  C02.ltInsert_refines c t m k dflt h hr hl

/-! ### iteration order after `erase(it)` -/

/-- erasing through an iterator removes exactly that position from the iteration order and keeps the relative
order of all the others: an `it = erase(it)` loop therefore visits every element exactly once -/
theorem traverse_after_erase (S : Nat) (st : Store κ ν) (hS : 0 < S) (hsz : st.cells.size = 2 ^ st.hp * S)
    (b s : Nat) (hs : s < S) :
    (st.set S b s none).traverse S = (st.traverse S).filter (fun p => decide (p ≠ (b, s))) := by
  rw [Store.traverse_eq S _ (by rw [Store.set_size]; exact hsz), st.traverse_eq S hsz, st.occFrom_set_none,
    List.filter_map]
  congr 1
  apply List.filter_congr
  intro j _
  -- `posOf` is injective and `(b, s)` is the position of `b * S + s`
  exact decide_eq_decide.mpr ⟨fun h e => h (posOf_inj (e.trans (posOf_flat hs).symm)), fun h e => h (e ▸ posOf_flat hs)⟩

/-- the same for the table operation: after `erase(it)` the iteration visits exactly the former sequence without `it`,
in the same relative order, and the returned iterator is a member of it or `end()` (`ltEraseAt_spec`) -/
theorem ltEraseAt_iteration [DecidableEq κ] (c : Cfg κ) (t : Table κ ν) (p : Pos) (sl : Slot κ ν)
    (h : Inv c t) (hget : t.cur.get c.S p.1 p.2 = some sl) :
    (t.ltEraseAt c p).1.cur.traverse c.S = (t.cur.traverse c.S).filter (fun q => decide (q ≠ p)) := by
  obtain ⟨b, s⟩ := p
  have ⟨hs, _⟩ := Store.get_some_lt hget
  exact traverse_after_erase c.S t.cur h.S_pos h.cur_wf.size b s hs

/-- consequence: an erase shortens the iteration by exactly one -/
theorem ltEraseAt_iteration_length [DecidableEq κ] (c : Cfg κ) (t : Table κ ν) (p : Pos) (sl : Slot κ ν)
    (h : Inv c t) (hget : t.cur.get c.S p.1 p.2 = some sl) :
    ((t.ltEraseAt c p).1.cur.traverse c.S).length + 1 = (t.cur.traverse c.S).length := by
  have hmem : p ∈ t.cur.traverse c.S :=
    (visited_iff_occupied c.S t.cur h.S_pos h.cur_wf.size p.1 p.2).mpr ⟨sl, hget⟩
  have hnd : (t.cur.traverse c.S).Nodup := Store.traverse_nodup c.S t.cur h.cur_wf.size
  -- on a duplicate-free list, filtering `p` out is `List.erase`
  have he : (t.cur.traverse c.S).filter (fun q => decide (q ≠ p)) = (t.cur.traverse c.S).erase p := by
    rw [hnd.erase_eq_filter]
    exact List.filter_congr (fun q _ => by by_cases e : q = p <;> simp [e])
  rw [ltEraseAt_iteration c t p sl h hget, he, List.length_erase_of_mem hmem,
    Nat.sub_add_cancel (List.length_pos_of_mem hmem)]

/-! ### the erase-while-iterating loop -/

/-- the idiom `for (it = lt.begin(); it != lt.end(); ) it = lt.erase(it);` with a step budget -/
def eraseAll (c : Cfg κ) : Nat → Table κ ν → Table κ ν
  | 0, t => t
  | n + 1, t =>
    if t.cur.itBegin c.S = t.cur.endPos then t
    else eraseAll c n (t.ltEraseAt c (t.cur.itBegin c.S)).1

theorem begin_occupied (S : Nat) (st : Store κ ν) (hS : 0 < S) (hne : st.itBegin S ≠ st.endPos) :
    ∃ sl, st.get S (st.itBegin S).1 (st.itBegin S).2 = some sl := by
  rw [Store.itBegin_eq] at hne ⊢
  rcases st.firstFrom_cases S 0 with he | ⟨j, hj, hf⟩
  · exact absurd he hne
  · rw [hf, st.get_posOf hS j]
    exact Option.isSome_iff_exists.mp (st.mem_occFrom.mp hj).2.2

/-- the loop rule of `eraseAll`: a property kept by every `erase(begin())` on a non-empty table holds at the end,
and the end is reached within `size` steps with nothing left to iterate over -/
theorem eraseAll_rule [DecidableEq κ] (c : Cfg κ) (P : Table κ ν → Prop)
    (step : ∀ t sl, Inv c t → P t → t.cur.get c.S (t.cur.itBegin c.S).1 (t.cur.itBegin c.S).2 = some sl →
      P (t.ltEraseAt c (t.cur.itBegin c.S)).1)
    (n : Nat) (t : Table κ ν) (h : Inv c t) (hP : P t) (hn : (t.cur.traverse c.S).length ≤ n) :
    Inv c (eraseAll c n t) ∧ P (eraseAll c n t) ∧ (eraseAll c n t).cur.traverse c.S = [] := by
  induction n generalizing t with
  | zero => exact ⟨h, hP, List.eq_nil_of_length_eq_zero (Nat.le_zero.mp hn)⟩
  | succ n ih =>
    unfold eraseAll
    split
    · rename_i heq
      exact ⟨h, hP, (Store.itBegin_eq_end_iff_nil c.S t.cur h.cur_wf.size).mp heq⟩
    · rename_i hne
      obtain ⟨sl, hg⟩ := begin_occupied c.S t.cur h.S_pos hne
      have hlen := ltEraseAt_iteration_length c t (t.cur.itBegin c.S) sl h hg
      exact ih _ (delFrom_spec c t _ _ sl h hg).1 (step t sl h hP hg) (by omega)

/-- the erase loop terminates within `size` steps with an empty, well-formed table: every element is erased exactly once
(each step removes exactly the visited position, `ltEraseAt_iteration`) -/
theorem erase_loop_empties [DecidableEq κ] (c : Cfg κ) (n : Nat) (t : Table κ ν) (h : Inv c t)
    (hn : (t.cur.traverse c.S).length ≤ n) :
    Inv c (eraseAll c n t) ∧ (eraseAll c n t).cur.traverse c.S = [] := by
  have := eraseAll_rule c (fun _ => True) (fun _ _ _ _ _ => trivial) n t h trivial hn
  exact ⟨this.1, this.2.2⟩

theorem map_empty_of_no_iteration [DecidableEq κ] (c : Cfg κ) (t : Table κ ν) (m : AMap κ ν) (h : Inv c t) (hr : Rel c t m)
    (hl : AllMig t) (he : t.cur.traverse c.S = []) : m = [] := by
  apply List.eq_nil_iff_forall_not_mem.mpr
  rintro ⟨k, v⟩ hm
  obtain ⟨p, hp, _⟩ := (iteration_matches_map c t m h hr hl k v).mp hm
  rw [he] at hp
  cases hp

/-- the erase loop, seen through the abstraction: it ends with the empty map -/
theorem erase_loop_map_empty [DecidableEq κ] (c : Cfg κ) (n : Nat) (t : Table κ ν) (m : AMap κ ν) (h : Inv c t)
    (hr : Rel c t m) (hl : AllMig t) (hn : (t.cur.traverse c.S).length ≤ n) :
    Rel c (eraseAll c n t) [] ∧ AllMig (eraseAll c n t) := by
  -- "fully migrated and representing some map" is kept by every `erase(begin())` (`ltEraseAt_spec`)
  obtain ⟨hi, ⟨hl', m', hr'⟩, he⟩ := eraseAll_rule c (fun t => AllMig t ∧ ∃ m, Rel c t m)
    (fun t sl h ⟨hl, m, hr⟩ hg =>
      have s := ltEraseAt_spec c t m _ sl h hr hl hg
      ⟨s.2.1, _, s.2.2.1⟩) n t h ⟨hl, m, hr⟩ hn
  have := map_empty_of_no_iteration c _ m' hi hr' hl' he
  subst this
  exact ⟨hr', hl'⟩

end Cuckoo.Props.C09
