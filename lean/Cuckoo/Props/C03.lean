import Cuckoo.Proofs.ProtoInv
import Cuckoo.Gen.MemOrder
/-!
# C03 — element access is exclusive: no lost updates, no torn reads, no data races (protocol part)

In every execution obeying the protocol (`Cuckoo.Proto.accept`), a bucket — and with it the functor that the
code runs on an element of that bucket, and the counter/flag of its stripe — is touched only by the one thread
that holds the stripe's lock in the *current* lock array (or that owns the whole table).  Hence two threads never
touch the same bucket concurrently: updates of one key are serialised and a reader sees a value before or after
an update.  The data-race clause in the C++ memory-model sense is decided on the extracted memory orders
(`Gen/MemOrder.lean`, theorem `sync_orders_sufficient`) and, for the one location the protocol does not
protect (the spine of the lock-array list, finding F8), only monitored.
-/
namespace Cuckoo.Props.C03
open Cuckoo.Proto

/-- a lock has at most one holder, and the threads' own views agree with the lock table -/
theorem holder_agrees (s : PS) (h : Reach s) (t : Tid) (l : LockId) :
    l ∈ (s.th t).held ↔ s.holder l = some t :=
  ((reach_inv s h).thr t).held_iff l

/-- whoever touches a bucket holds its stripe in the current lock array and is validated (or owns the table) -/
theorem access_needs_current_stripe (s s' : PS) (t : Tid) (stripe : Nat) (ha : accept s (.access t stripe) = some s') :
    s.holder ⟨s.curGen, stripe⟩ = some t ∧ ((s.th t).validated = true ∨ (s.th t).owner = true) ∧ s' = s := by
  obtain ⟨⟨h1, h2, -⟩, rfl⟩ := accept_access_iff.1 ha
  exact ⟨h2, h1, rfl⟩

/-- two threads that are both allowed to touch a bucket of the same stripe are the same thread -/
theorem access_exclusive (s : PS) (t u : Tid) (stripe : Nat)
    (ht : (accept s (.access t stripe)).isSome = true) (hu : (accept s (.access u stripe)).isSome = true) : t = u :=
  Option.some.inj ((access_holds ht).symm.trans (access_holds hu))

/-- validated threads hold pairwise disjoint stripe sets -/
theorem validated_disjoint (s : PS) (h : Reach s) (t u : Tid) (l : LockId)
    (ht : l ∈ (s.th t).held) (hu : l ∈ (s.th u).held) : t = u :=
  Option.some.inj (((holder_agrees s h t l).1 ht).symm.trans ((holder_agrees s h u l).1 hu))

/-- a thread that owns the table (lock_all completed, or an active locked section) excludes every validated thread -/
theorem owner_excludes_validated (s : PS) (h : Reach s) (z t : Tid) (hz : (s.th z).owner = true)
    (ht : (s.th t).validated = true) : t = z :=
  ((reach_inv s h).owner_not_val hz ht).elim

/-- and nobody but the owner can touch any bucket while the table is owned -/
theorem owner_excludes_access (s : PS) (h : Reach s) (z t : Tid) (stripe : Nat) (hz : (s.th z).owner = true)
    (hst : stripe < s.curSize) (ha : (accept s (.access t stripe)).isSome = true) : t = z :=
  Option.some.inj ((access_holds ha).symm.trans ((reach_inv s h).owner_holds hz hst))

/-- n read-modify-write updates of one key by any threads, in any accepted schedule, are n accesses each made
under the stripe lock: between the `acquire` and the `release` of that lock no other thread touches the stripe -/
theorem no_interleaved_access (s s1 : PS) (h : Reach s) (t u : Tid) (stripe : Nat)
    (hheld : s.holder ⟨s.curGen, stripe⟩ = some t) (hu : accept s (.access u stripe) = some s1) : u = t :=
  Option.some.inj ((access_needs_current_stripe s s1 u stripe hu).1.symm.trans hheld)

/-! ### memory orders (regenerated from the LLVM IR of the source on every run, T-C) -/

open Cuckoo.Gen.MemOrder in
/-- at least acquire -/
def isAcq : Cuckoo.Gen.MemOrder.Ord → Bool
  | .acquire | .acq_rel | .seq_cst => true
  | _ => false

open Cuckoo.Gen.MemOrder in
/-- at least release -/
def isRel : Cuckoo.Gen.MemOrder.Ord → Bool
  | .release | .acq_rel | .seq_cst => true
  | _ => false

/-- the synchronisation the protocol relies on has the required strength in the current source: taking a spinlock
is an acquire (and release) read-modify-write, releasing it is a release store, the hashpower and the resize counter are
loaded with acquire and published with release (the counter bump of every resize path included), and the
pending-stripe counter is decremented with acq_rel and stored with release -/
theorem sync_orders_sufficient :
    (∀ e ∈ Cuckoo.Gen.MemOrder.accesses, e.1 = "lock" → isAcq e.2.2 = true ∧ isRel e.2.2 = true) ∧
    (∀ e ∈ Cuckoo.Gen.MemOrder.accesses, e.1 = "unlock" → isRel e.2.2 = true) ∧
    (∀ e ∈ Cuckoo.Gen.MemOrder.accesses, (e.1 = "hashpower_get" ∨ e.1 = "load_resize_counter") → isAcq e.2.2 = true) ∧
    (∀ e ∈ Cuckoo.Gen.MemOrder.accesses,
      (e.1 = "hashpower_set" ∨ e.1 = "cuckoo_fast_double" ∨ e.1 = "cuckoo_expand_simple" ∨ e.1 = "bump_resize_counter" ∨
       e.1 = "lazy_set") → isRel e.2.2 = true) ∧
    (∀ e ∈ Cuckoo.Gen.MemOrder.accesses, e.1 = "lazy_dec" → isAcq e.2.2 = true ∧ isRel e.2.2 = true) ∧
    (∀ f ∈ ["lock", "unlock", "hashpower_get", "hashpower_set", "load_resize_counter", "cuckoo_fast_double",
            "cuckoo_expand_simple", "bump_resize_counter", "lazy_set", "lazy_dec"],
      ∃ e ∈ Cuckoo.Gen.MemOrder.accesses, e.1 = f) := by
  decide +kernel

/-! non-vacuity: the holder's access is accepted, another thread's access to the same stripe is rejected -/
example : (run (init 3 4) [.rcLoad 0, .hpLoad 0, .genLoad 0, .acquire 0 ⟨0,2⟩, .rcLoad 0, .access 0 2]).isSome = true := by decide +kernel
example : (run (init 3 4) [.rcLoad 0, .hpLoad 0, .genLoad 0, .acquire 0 ⟨0,2⟩, .rcLoad 0, .access 1 2]).isSome = false := by decide +kernel

end Cuckoo.Props.C03
