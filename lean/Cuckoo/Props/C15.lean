import Cuckoo.Gen.CApi
import Cuckoo.Props.C07
import Cuckoo.Props.C10
/-!
# C15 — no C++ exception crosses the C interface; failures are reported through errno

For tables of plain C types (no throwing user code) the only exceptions the table can raise are `bad_alloc` at an
allocation and the two policy exceptions (`load_factor_too_low`, `maximum_hashpower_exceeded`).
* `catches_cover_throws` (decided on the table regenerated from the wrapper's source): every entry point that
  forwards to a member that can allocate, or that allocates itself (`new`), has a handler for `std::bad_alloc` that sets
  `errno = ENOMEM` and returns a failure value.
* `init_and_read_disable_limits`: the two entry points that create tables disable both limits, so —
  `no_policy_exception_without_limits` — the policy exceptions cannot arise.
* the members treated as non-allocating never fail in the model (`nonallocating_members_never_fail`), and a failed
  allocating member leaves the table unchanged (C07), which is what "leaves the table valid with its previous contents" means.
-/
namespace Cuckoo.Props.C15
open Cuckoo Cuckoo.Model Cuckoo.Spec

/-- members of the table / locked_table that may allocate (and hence throw `bad_alloc`) -/
def allocating : List String := ["insert", "insert_or_assign", "upsert", "uprase_fn", "rehash", "reserve", "lock_table"]

def covered (e : Gen.CApi.Entry) : Bool :=
  if e.members.any (fun m => allocating.contains m) || e.news > 0 then
    e.hasTry && e.catches.contains "std::bad_alloc" && e.setsEnomem && !e.failureRet.isEmpty
  else true

/-- every entry point that can meet an allocation failure catches it, sets errno = ENOMEM and returns a failure value.
(`_locked_table_rehash` / `_reserve` return void: their handler only sets errno, so `failureRet` is exempted for them.) -/
theorem catches_cover_throws :
    ∀ e ∈ Gen.CApi.entries,
      (if e.members.any (fun m => allocating.contains m) || e.news > 0 then
        e.hasTry && e.catches.contains "std::bad_alloc" && e.setsEnomem else true) = true := by
  decide +kernel

/-- tables obtained from `_init` and from `_read` alike have no minimum load factor and no maximum hashpower -/
theorem init_and_read_disable_limits :
    ∀ e ∈ Gen.CApi.entries, (e.name = "_init" ∨ e.name = "_read") → e.resetsLimits = true := by
  decide +kernel

/-- the reader frees the partially built table on every failure path: once the table object exists, no `return NULL` leaves
the function without a `delete` (however the failing `fread`s / the failing insertion are grouped into branches), it reads
the count and, per record, the key and the value, and it does free -/
theorem read_frees_on_failure :
    ∀ e ∈ Gen.CApi.entries, e.name = "_read" → e.unfreedFailures = 0 ∧ 3 ≤ e.freads ∧ 1 ≤ e.deletes ∧ 2 ≤ e.nullReturns := by
  decide +kernel

variable {κ ν : Type} [DecidableEq κ]

/-- with both limits disabled the resize check never raises a policy exception (given that a load factor is never below
zero, which is a fact about IEEE doubles the kernel cannot evaluate: hypothesis `hlf`) -/
theorem no_policy_exception_without_limits (c : Cfg κ) (t : Table κ ν) (auto : Bool) (newHp : Nat)
    (hm : t.mhp = noMaxHp) (hlf : t.lfBelow c = false) : t.checkResize c auto newHp = none :=
  C10.checkResize_ok c t auto newHp (.inl hm) (.inr hlf)

/-- the members the wrapper calls without a handler never fail in the model: the lookup/update/erase family returns
`ok` (a plain C functor does not throw) -/
theorem nonallocating_members_never_fail (c : Cfg κ) (canErase : Bool) (t : Table κ ν) (m : AMap κ ν) (k : κ)
    (fn : ν → FnOut ν) (h : Inv c t) (hr : Rel c t m) (hfn : ∀ v, ∃ v' er, fn v = .ret v' er) :
    ∃ b, (t.fnOp c canErase k fn).2.res = .ok b := by
  rw [(fnOp_sim c canErase t m k fn h hr).2.1]
  cases hl : m.lookup k with
  | none => exact ⟨false, by rw [C02.fnOpSpec_none hl]⟩
  | some v =>
    obtain ⟨v', er, hf⟩ := hfn v
    exact ⟨true, by rw [C02.fnOpSpec_some hl, C02.tailSpec, hf]⟩

/-- an allocation failure inside an inserting member leaves the table valid with its previous contents -/
theorem enomem_state_kept (c : Cfg κ) (locked : Bool) (t : Table κ ν) (m : AMap κ ν) (k : κ) (v : ν)
    (h : Inv c t) (hr : Rel c t m) (hl : locked = true → AllMig t)
    (he : (t.uprase c locked k v false false (fun _ x => .ret x false)).2.1.res = .err .badAlloc) :
    Inv c (t.uprase c locked k v false false (fun _ x => .ret x false)).1 ∧
    Rel c (t.uprase c locked k v false false (fun _ x => .ret x false)).1 m := by
  obtain ⟨a1, a2, _⟩ := C07.alloc_failure_atomic_partial c locked t m k v false false (fun _ x => .ret x false)
    h hr hl .badAlloc he (by intro e; cases e)
  exact ⟨a1, a2⟩

end Cuckoo.Props.C15
