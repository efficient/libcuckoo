import Cuckoo.Proofs.Rebuild.Chunks
import Cuckoo.Proofs.Rebuild.Contents
import Cuckoo.Props.C05
import Cuckoo.Props.C01Sched
/-!
# C02 (helper threads, second use) — the rebuild of `cuckoo_expand_simple` run by several threads

With `max_num_worker_threads() > 0` the loop of `cuckoo_expand_simple`

    for each occupied slot of the old array:  new_map.insert(key, value)

is run through `parallel_exec`: every thread gets a chunk of bucket indices and executes its `insert` calls on the
temporary map `new_map` **concurrently** with the others.  Where an element lands (the layout of `new_map`, even its
hashpower if an insertion has to double it) then depends on timing.  Its *contents* do not:

* `rebuild_contents_exact`: for EVERY schedule of critical sections (`Model/Conc`, `C01Conc.Ev`) of `insert` calls on an
  empty, well-formed table in which every call that answers succeeds and for every item exactly one call on it answers,
  the final table satisfies the invariant and represents a map `m'` with `m'.lookup k = some v ↔ (k, v) ∈ items`,
  `m'.length = items.length`, `size() = items.length`; and every answer is `true` (newly inserted): no element is
  taken for a duplicate, i.e. none is dropped by the duplicate branch of the loop (`rebuildStep`).
  The hypothesis is stated with `RebuildA.completed calls responses`: the pairs `(k, v)` of those entries of
  `calls.zip responses` whose response is `some _`, in schedule order; "exactly one final response per item" is
  `(completed …).Perm items` (`items` has pairwise distinct keys).  `rebuild_sched_of_items` gives the structure
  `RebuildSched` from the hypotheses written out.
* `rebuild_any_interleaving_same_contents`, `rebuild_any_interleaving_same_finds`: two such schedules (different
  interleavings, different chunking, even different empty start tables) end in tables that represent the same finite
  map, have the same `size()`, and answer every `find` alike.
* `seq_rebuild_is_schedule`: the sequential loop of the model, `foldl (rebuildStep c (insertLoop c false fuel))`, ending
  without exception, IS the run of one such schedule (the concatenation of the schedules `Sched.insSched` of the single
  insertions, `C01Sched.insertLoop_is_schedule`); it never takes the duplicate branch.  `tempMap_is_empty`: the
  temporary map built by `expandSimple` satisfies the hypotheses on `t0`.
* `helper_rebuild_contents`: the items being the elements of the old array (keys distinct by `Inv.uniq`), handed out
  in chunks by `splitWork` (`C02Par.splitWork_partition`: every bucket to exactly one thread): if the answered calls
  are ANY interleaving (`RebuildA.Interleave`: each thread keeps its own order) of the chunks' work lists, the final
  table represents exactly the elements of the old array; `helper_rebuild_same_as_sequential`: the same finite map as
  the one the sequential loop of the model builds.
* examples: two items in both orders on an abstract table; a concrete table, three schedules with internal sections
  interleaved, all hypotheses evaluated by the kernel.

What is **assumed**: as in `C01Conc` — a lock-protected block is atomic and runs on the current table; in addition
that every helper thread's `insert` calls return (the hypothesis "exactly one final response per item": termination is
not proved here) and that none ends with an exception (`parallel_exec` would rethrow it and the rebuild would be
abandoned; `AllOk`).
-/
namespace Cuckoo.Props.C02Rebuild
open Cuckoo Cuckoo.Model Cuckoo.Model.Conc Cuckoo.Spec Cuckoo.Props.C01Conc Cuckoo.Model.RebuildA
variable {κ ν : Type} [DecidableEq κ]

/-- the hypotheses written out: every event belongs to an `insert(k, v)` call of an item; every final response is a
success; the calls with a final response are, in some order, exactly the items -/
theorem rebuild_sched_of_items (c : Cfg κ) (items : List (κ × ν)) (t0 : Table κ ν) (evs : List (Ev c ν))
    (hcalls : ∀ ev ∈ evs, ∃ k v, (k, v) ∈ items ∧ ev.call = .uprase k v false false (fun _ w => .ret w false))
    (hok : ∀ r, some r ∈ (exec t0 (evs.map (·.f))).2 → ∃ b calls, r = Resp.bool (.ok b) calls)
    (honce : (completed (evs.map (·.call)) (exec t0 (evs.map (·.f))).2).Perm items) :
    RebuildSched c items t0 evs :=
  ⟨fun ev hev => by obtain ⟨k, v, _, e⟩ := hcalls ev hev; exact ⟨k, v, e⟩, hok, honce⟩

theorem rebuild_sched_of_handout (c : Cfg κ) (items : List (κ × ν)) (ls : List (List (κ × ν)))
    (hcov : ls.flatten.Perm items) (t0 : Table κ ν) (evs : List (Ev c ν))
    (hcalls : ∀ ev ∈ evs, ∃ k v, ev.call = insCall k v) (hok : AllOk (exec t0 (evs.map (·.f))).2)
    (hil : Interleave ls (completed (evs.map (·.call)) (exec t0 (evs.map (·.f))).2)) :
    RebuildSched c items t0 evs :=
  ⟨hcalls, hok, hil.perm.trans hcov⟩

/-- `t` is well formed and represents a rearrangement `m` of `items` -/
structure Rebuilt (c : Cfg κ) (items : List (κ × ν)) (t : Table κ ν) (m : AMap κ ν) : Prop where
  inv : Inv c t
  rel : Rel c t m
  perm : m.Perm items

namespace Rebuilt
variable {c : Cfg κ} {items : List (κ × ν)} {t t1 t2 : Table κ ν} {m m1 m2 : AMap κ ν}

theorem lookup (h : Rebuilt c items t m) (k : κ) (v : ν) : m.lookup k = some v ↔ (k, v) ∈ items :=
  (AMap.lookup_eq_some_iff m h.rel.nodup k v).trans h.perm.mem_iff

omit [DecidableEq κ] in
theorem size (h : Rebuilt c items t m) : t.size = items.length :=
  h.rel.size.trans h.perm.length_eq

/-- two tables rebuilt from the same items represent the same finite map -/
theorem same (h1 : Rebuilt c items t1 m1) (h2 : Rebuilt c items t2 m2) :
    m1.Perm m2 ∧ (∀ k, m1.lookup k = m2.lookup k) ∧ t1.size = t2.size :=
  have hp := h1.perm.trans h2.perm.symm
  ⟨hp, AMap.lookup_congr_of_perm m1 m2 hp h1.rel.nodup, h1.size.trans h2.size.symm⟩

theorem finds (h1 : Rebuilt c items t1 m1) (h2 : Rebuilt c items t2 m2) (k : κ) :
    (t1.findVal c k).2 = (t2.findVal c k).2 := by
  rw [(C02.findVal_refines c _ m1 k h1.inv h1.rel).2.2, (C02.findVal_refines c _ m2 k h2.inv h2.rel).2.2,
    (h1.same h2).2.1 k]

end Rebuilt

/-- the run of a rebuild schedule on an empty table ends in a table rebuilt from the items, and every answer is `true` -/
theorem rebuilt (c : Cfg κ) (items : List (κ × ν)) (hnd : (items.map Prod.fst).Nodup)
    (t0 : Table κ ν) (h : Inv c t0) (hr : Rel c t0 []) (evs : List (Ev c ν)) (hs : RebuildSched c items t0 evs) :
    Rebuilt c items (run t0 evs).1 (completed (evs.map (·.call)) (run t0 evs).2).reverse ∧ AllNew (run t0 evs).2 := by
  obtain ⟨a1, a2, a3⟩ := rebuild_core c items hnd t0 [] h hr (fun _ _ => rfl) evs hs
  rw [List.append_nil] at a2
  exact ⟨⟨a1, a2, (List.reverse_perm _).trans hs.once⟩, a3⟩

/-- **the contents of a concurrently rebuilt map are exactly the items**, whatever the interleaving -/
theorem rebuild_contents_exact (c : Cfg κ) (items : List (κ × ν)) (hnd : (items.map Prod.fst).Nodup)
    (t0 : Table κ ν) (h : Inv c t0) (hr : Rel c t0 []) (evs : List (Ev c ν)) (hs : RebuildSched c items t0 evs) :
    ∃ m' : AMap κ ν,
      Inv c (exec t0 (evs.map (·.f))).1 ∧ Rel c (exec t0 (evs.map (·.f))).1 m' ∧
      m'.Perm items ∧ (∀ k v, m'.lookup k = some v ↔ (k, v) ∈ items) ∧ m'.length = items.length ∧
      (exec t0 (evs.map (·.f))).1.size = items.length ∧
      (∀ r, some r ∈ (exec t0 (evs.map (·.f))).2 → r = Resp.bool (.ok true) []) :=
  have ⟨r, new⟩ := rebuilt c items hnd t0 h hr evs hs
  ⟨_, r.inv, r.rel, r.perm, r.lookup, r.perm.length_eq, r.size, new⟩

/-- two rebuilds of the same items — different interleavings, different chunkings — represent the same finite map -/
theorem rebuild_any_interleaving_same_contents (c : Cfg κ) (items : List (κ × ν)) (hnd : (items.map Prod.fst).Nodup)
    (t1 t2 : Table κ ν) (h1 : Inv c t1) (hr1 : Rel c t1 []) (h2 : Inv c t2) (hr2 : Rel c t2 [])
    (evs1 evs2 : List (Ev c ν)) (hs1 : RebuildSched c items t1 evs1) (hs2 : RebuildSched c items t2 evs2) :
    ∃ m1 m2 : AMap κ ν,
      Rel c (exec t1 (evs1.map (·.f))).1 m1 ∧ Rel c (exec t2 (evs2.map (·.f))).1 m2 ∧
      m1.Perm m2 ∧ (∀ k, m1.lookup k = m2.lookup k) ∧
      (exec t1 (evs1.map (·.f))).1.size = (exec t2 (evs2.map (·.f))).1.size :=
  have a := (rebuilt c items hnd t1 h1 hr1 evs1 hs1).1
  have b := (rebuilt c items hnd t2 h2 hr2 evs2 hs2).1
  ⟨_, _, a.rel, b.rel, a.same b⟩

/-- observably: every `find` gives the same answer on the two rebuilt tables -/
theorem rebuild_any_interleaving_same_finds (c : Cfg κ) (items : List (κ × ν)) (hnd : (items.map Prod.fst).Nodup)
    (t1 t2 : Table κ ν) (h1 : Inv c t1) (hr1 : Rel c t1 []) (h2 : Inv c t2) (hr2 : Rel c t2 [])
    (evs1 evs2 : List (Ev c ν)) (hs1 : RebuildSched c items t1 evs1) (hs2 : RebuildSched c items t2 evs2) (k : κ) :
    ((exec t1 (evs1.map (·.f))).1.findVal c k).2 = ((exec t2 (evs2.map (·.f))).1.findVal c k).2 :=
  (rebuilt c items hnd t1 h1 hr1 evs1 hs1).1.finds (rebuilt c items hnd t2 h2 hr2 evs2 hs2).1 k

omit [DecidableEq κ] in
/-- the temporary map `new_map` that `expandSimple` builds (`Table.init` with the policy fields of the old table) is
well formed and empty: it satisfies the hypotheses on `t0` above -/
theorem tempMap_is_empty (c : Cfg κ) (n w : Nat) (f : Float) (mh : Nat) (hS : 0 < c.S) (hM : ∃ m, c.M = 2 ^ m)
    (hlim : mh = noMaxHp ∨ Spec.reserveCalc c.S n ≤ mh) :
    Inv c ({ (Table.init c n : Table κ ν) with workers := w, mlf := f, mhp := mh }) ∧
    Rel c ({ (Table.init c n : Table κ ν) with workers := w, mlf := f, mhp := mh }) [] := by
  have e := Rz.init_spec (ν := ν) c n w f mh hS hM hlim
  exact ⟨e.inv, e.rel⟩

/-- the loop of `expandSimple` over a list `L` of elements with distinct keys (one thread, no exception) is the run of a
rebuild schedule of the pairs of `L`: same final table -/
theorem seq_rebuild_is_schedule (c : Cfg κ) (fuel : Nat) (L : List (Slot κ ν)) (hnd : (L.map (·.key)).Nodup)
    (nm nmF : Table κ ν) (h : Inv c nm) (hr : Rel c nm [])
    (hf : L.foldl (rebuildStep c (insertLoop c false fuel)) (nm, .ok ()) = (nmF, .ok ())) :
    ∃ evs : List (Ev c ν), RebuildSched c (L.map kv) nm evs ∧ (exec nm (evs.map (·.f))).1 = nmF :=
  seq_rebuild_sched c fuel L nm [] h hr hnd (fun _ _ => rfl) nmF hf

/-- hence the sequential loop ends in a table rebuilt from the pairs of `L`: by `Rebuilt.same` every concurrent rebuild of
the same elements represents the same finite map as the sequential one -/
theorem seq_rebuilt (c : Cfg κ) (fuel : Nat) (L : List (Slot κ ν)) (hnd : (L.map (·.key)).Nodup)
    (nm nmF : Table κ ν) (h : Inv c nm) (hr : Rel c nm [])
    (hf : L.foldl (rebuildStep c (insertLoop c false fuel)) (nm, .ok ()) = (nmF, .ok ())) :
    ∃ mS : AMap κ ν, Rebuilt c (L.map kv) nmF mS := by
  obtain ⟨evsS, hsS, hT⟩ := seq_rebuild_is_schedule c fuel L hnd nm nmF h hr hf
  exact ⟨_, hT ▸ (rebuilt c _ ((map_fst_kv L).symm ▸ hnd) nm h hr evsS hsS).1⟩

/-- the old array's elements, handed out in chunks of buckets by `parallel_exec` to `workers` helper threads and the
caller, and inserted into the temporary map `t0` concurrently — any interleaving of sections, the answered calls being any
interleaving of the threads' work lists — : the temporary map ends up with exactly the elements of the old array -/
theorem helper_rebuild_contents (c : Cfg κ) (t : Table κ ν) (ht : Inv c t) (workers : Nat)
    (t0 : Table κ ν) (h0 : Inv c t0) (hr0 : Rel c t0 []) (evs : List (Ev c ν))
    (hcalls : ∀ ev ∈ evs, ∃ k v, ev.call = insCall k v)
    (hok : AllOk (exec t0 (evs.map (·.f))).2)
    (hil : Interleave ((splitWork 0 (2 ^ t.cur.hp) workers).map (chunkItems c.S t.cur))
      (completed (evs.map (·.call)) (exec t0 (evs.map (·.f))).2)) :
    RebuildSched c (t.cur.elems.map kv) t0 evs ∧
    ∃ m' : AMap κ ν, Inv c (exec t0 (evs.map (·.f))).1 ∧ Rel c (exec t0 (evs.map (·.f))).1 m' ∧
      (∀ k v, m'.lookup k = some v ↔ ∃ sl ∈ t.cur.elems, sl.key = k ∧ sl.val = v) ∧
      (exec t0 (evs.map (·.f))).1.size = t.cur.elems.length ∧
      (∀ r, some r ∈ (exec t0 (evs.map (·.f))).2 → r = Resp.bool (.ok true) []) := by
  have hs := rebuild_sched_of_handout c _ _ (.of_eq (chunks_cover c.S t.cur (2 ^ t.cur.hp) workers ht.cur_wf.size))
    t0 evs hcalls hok hil
  obtain ⟨r, new⟩ := rebuilt c _ (elems_keys_nodup ht) t0 h0 hr0 evs hs
  refine ⟨hs, _, r.inv, r.rel, fun k v => ?_, by rw [r.size, List.length_map], new⟩
  rw [r.lookup, List.mem_map]
  exact ⟨fun ⟨sl, hsl, e⟩ => ⟨sl, hsl, congrArg Prod.fst e, congrArg Prod.snd e⟩,
    fun ⟨sl, hsl, e1, e2⟩ => ⟨sl, hsl, Prod.ext e1 e2⟩⟩

/-- … and that is the finite map the sequential loop of the model builds from the same array: **the helper-thread rebuild is
correct at the level of contents** -/
theorem helper_rebuild_same_as_sequential (c : Cfg κ) (t : Table κ ν) (ht : Inv c t) (workers fuel : Nat)
    (nm nmF : Table κ ν) (h : Inv c nm) (hr : Rel c nm [])
    (hf : t.cur.elems.foldl (rebuildStep c (insertLoop c false fuel)) (nm, .ok ()) = (nmF, .ok ()))
    (t0 : Table κ ν) (h0 : Inv c t0) (hr0 : Rel c t0 []) (evs : List (Ev c ν))
    (hcalls : ∀ ev ∈ evs, ∃ k v, ev.call = insCall k v)
    (hok : AllOk (exec t0 (evs.map (·.f))).2)
    (hil : Interleave ((splitWork 0 (2 ^ t.cur.hp) workers).map (chunkItems c.S t.cur))
      (completed (evs.map (·.call)) (exec t0 (evs.map (·.f))).2)) :
    ∃ mS mC : AMap κ ν, Rel c nmF mS ∧ Rel c (exec t0 (evs.map (·.f))).1 mC ∧ (∀ k, mC.lookup k = mS.lookup k) ∧
      (exec t0 (evs.map (·.f))).1.size = nmF.size ∧
      ∀ k, ((exec t0 (evs.map (·.f))).1.findVal c k).2 = (nmF.findVal c k).2 := by
  obtain ⟨hs, _⟩ := helper_rebuild_contents c t ht workers t0 h0 hr0 evs hcalls hok hil
  obtain ⟨mS, a⟩ := seq_rebuilt c fuel _ (map_fst_kv _ ▸ elems_keys_nodup ht) nm nmF h hr hf
  have b := (rebuilt c _ (elems_keys_nodup ht) t0 h0 hr0 evs hs).1
  exact ⟨mS, _, a.rel, b.rel, (b.same a).2.1, (b.same a).2.2, b.finds a⟩

omit [DecidableEq κ] in
/-- the sequential chunk-by-chunk order is one of the interleavings (so the hypothesis `hil` is satisfiable for every
table and every number of workers) -/
theorem chunk_order_is_interleaving (S : Nat) (st : Store κ ν) (nb workers : Nat) :
    Interleave ((splitWork 0 nb workers).map (chunkItems S st)) ((splitWork 0 nb workers).map (chunkItems S st)).flatten :=
  Interleave.flatten _

/-- end to end for `cuckoo_expand_simple` on a table `t` that represents `m`: the old array is `(t.migrateAll c).cur`
(all stripes are migrated first, under all locks); whatever the interleaving of the helper threads' insertions, the
temporary map ends up representing `m` itself — same pairs, same `size()` -/
theorem helper_rebuild_preserves_map (c : Cfg κ) (t : Table κ ν) (m : AMap κ ν) (ht : Inv c t) (hr : Rel c t m)
    (workers : Nat) (t0 : Table κ ν) (h0 : Inv c t0) (hr0 : Rel c t0 []) (evs : List (Ev c ν))
    (hcalls : ∀ ev ∈ evs, ∃ k v, ev.call = insCall k v)
    (hok : AllOk (exec t0 (evs.map (·.f))).2)
    (hil : Interleave ((splitWork 0 (2 ^ (t.migrateAll c).cur.hp) workers).map (chunkItems c.S (t.migrateAll c).cur))
      (completed (evs.map (·.call)) (exec t0 (evs.map (·.f))).2)) :
    ∃ mC : AMap κ ν, Inv c (exec t0 (evs.map (·.f))).1 ∧ Rel c (exec t0 (evs.map (·.f))).1 mC ∧
      mC.Perm m ∧ (∀ k, mC.lookup k = m.lookup k) ∧ (exec t0 (evs.map (·.f))).1.size = t.size := by
  have ma := migrateAll_spec c t ht
  obtain ⟨_, mC, a1, a2, a3, _, _⟩ := helper_rebuild_contents c _ ma.inv workers t0 h0 hr0 evs hcalls hok hil
  obtain ⟨hp, hl⟩ := AMap.perm_of_same_pairs mC m a2.nodup hr.nodup fun k v => by
    rw [← AMap.lookup_eq_some_iff mC a2.nodup, a3, elems_represent c _ m ma.inv (hr.of_same ma.same) ma.allmig]
  exact ⟨mC, a1, a2, hp, hl, a2.size.trans (hp.length_eq.trans hr.size.symm)⟩

/-- the one-section insertion (no displacement) as a scheduled event of its call -/
def insEv (c : Cfg κ) (k : κ) (v : ν) : Ev c ν :=
  ⟨insCall k v, insertTrySec c k v false false (fun _ w => .ret w false), insertTrySec_sec c k v false false _⟩

/-- a `lock_one` / `lock_two` / `lock_three` section (lazy migration only) of the insertion of `(k, v)` -/
def lockEv (c : Cfg κ) (k : κ) (v : ν) (bs : List Nat) : Ev c ν := ⟨insCall k v, lockSec c bs, lockSec_sec c _ bs⟩

theorem two_insEv_sched (c : Cfg κ) (t0 : Table κ ν) (k1 k2 : κ) (v1 v2 : ν) (a1 a2 : Bool) (ca1 ca2 : List (Model.Call ν))
    (hA : (exec t0 ([insEv c k1 v1, insEv c k2 v2].map (·.f))).2 =
      [some (.bool (.ok a1) ca1), some (.bool (.ok a2) ca2)]) :
    RebuildSched c [(k1, v1), (k2, v2)] t0 [insEv c k1 v1, insEv c k2 v2] := by
  have hA' : (run t0 [insEv c k1 v1, insEv c k2 v2]).2 = _ := hA
  refine ⟨?_, ?_, ?_⟩
  · intro ev hev
    simp only [List.mem_cons, List.not_mem_nil, or_false] at hev
    rcases hev with e | e <;> rw [e] <;> exact ⟨_, _, rfl⟩
  · rw [hA']
    intro r hr
    simp only [List.mem_cons, List.not_mem_nil, or_false, Option.some.injEq] at hr
    rcases hr with e | e <;> rw [e] <;> exact ⟨_, _, rfl⟩
  · rw [hA']
    exact List.Perm.refl _

/-- two items inserted by two threads, in both orders, on an abstract empty table: if both calls answer in their first
section with a success, the answers are `true` and the two tables represent the same map -/
example (c : Cfg κ) (t0 : Table κ ν) (h : Inv c t0) (hr : Rel c t0 []) (k1 k2 : κ) (v1 v2 : ν) (hne : k1 ≠ k2)
    (a1 a2 b1 b2 : Bool) (ca1 ca2 cb1 cb2 : List (Model.Call ν))
    (hA : (exec t0 ([insEv c k1 v1, insEv c k2 v2].map (·.f))).2 =
      [some (.bool (.ok a1) ca1), some (.bool (.ok a2) ca2)])
    (hB : (exec t0 ([insEv c k2 v2, insEv c k1 v1].map (·.f))).2 =
      [some (.bool (.ok b1) cb1), some (.bool (.ok b2) cb2)]) :
    (a1 = true ∧ a2 = true ∧ b1 = true ∧ b2 = true) ∧
    ∃ mA mB : AMap κ ν,
      Rel c (exec t0 ([insEv c k1 v1, insEv c k2 v2].map (·.f))).1 mA ∧
      Rel c (exec t0 ([insEv c k2 v2, insEv c k1 v1].map (·.f))).1 mB ∧
      (∀ k, mA.lookup k = mB.lookup k) ∧ mA.lookup k1 = some v1 ∧ mA.lookup k2 = some v2 ∧ mA.length = 2 := by
  have hnd : (([(k1, v1), (k2, v2)] : List (κ × ν)).map Prod.fst).Nodup := List.pairwise_pair.mpr hne
  have hsA := two_insEv_sched c t0 k1 k2 v1 v2 a1 a2 ca1 ca2 hA
  have hsB := (two_insEv_sched c t0 k2 k1 v2 v1 b1 b2 cb1 cb2 hB).perm (List.Perm.swap _ _ _)
  obtain ⟨rA, newA⟩ := rebuilt c _ hnd t0 h hr _ hsA
  obtain ⟨rB, newB⟩ := rebuilt c _ hnd t0 h hr _ hsB
  rw [show (run t0 _).2 = _ from hA] at newA
  rw [show (run t0 _).2 = _ from hB] at newB
  cases newA _ List.mem_cons_self
  cases newA _ (List.mem_cons_of_mem _ List.mem_cons_self)
  cases newB _ List.mem_cons_self
  cases newB _ (List.mem_cons_of_mem _ List.mem_cons_self)
  exact ⟨⟨rfl, rfl, rfl, rfl⟩, _, _, rA.rel, rB.rel, (rA.same rB).2.1,
    (rA.lookup k1 v1).mpr List.mem_cons_self, (rA.lookup k2 v2).mpr (List.mem_cons_of_mem _ List.mem_cons_self),
    rA.perm.length_eq⟩

namespace Ex
open Cuckoo.Props.C01Sched.Ex

/-- the temporary map: eight buckets of one slot, four stripes (`C01Sched.Ex.cE`) -/
def t0 : Table Nat Nat := Table.init cE 8
def items : List (Nat × Nat) := [(0, 100), (8, 108), (1, 101)]

/-- thread A inserts 0 then 8, thread B inserts 1; three interleavings, the last two with internal `lock` sections of
calls that answer later.  Keys 0 and 8 have the same first bucket (5), so who comes first decides the layout. -/
def sA : List (Ev cE Nat) := [insEv cE 0 100, insEv cE 8 108, insEv cE 1 101]
def sB : List (Ev cE Nat) := [lockEv cE 1 101 [5], insEv cE 8 108, lockEv cE 0 100 [2, 3], insEv cE 1 101, insEv cE 0 100]
def sC : List (Ev cE Nat) := [insEv cE 1 101, lockEv cE 8 108 [5, 4], insEv cE 0 100, lockEv cE 8 108 [1, 2, 3], insEv cE 8 108]

theorem t0_ok : Inv cE t0 ∧ Rel cE t0 [] := C02.init_refines cE 8 (by decide) ⟨2, rfl⟩
theorem items_nodup : (items.map Prod.fst).Nodup := by decide

theorem sched_of_eval (evs : List (Ev cE Nat)) (h1 : ∀ ev ∈ evs, ∃ k v, ev.call = insCall k v)
    (h2 : (exec t0 (evs.map (·.f))).2.all isNew = true)
    (h3 : (completed (evs.map (·.call)) (exec t0 (evs.map (·.f))).2).Perm items) : RebuildSched cE items t0 evs :=
  ⟨h1, allOk_of_isNew _ h2, h3⟩

theorem sA_sched : RebuildSched cE items t0 sA := by
  obtain ⟨h2, e⟩ : (exec t0 (sA.map (·.f))).2.all isNew = true ∧
      completed (sA.map (·.call)) (exec t0 (sA.map (·.f))).2 = [(0, 100), (8, 108), (1, 101)] := by decide +kernel
  refine sched_of_eval sA (fun ev hev => ?_) h2 (by rw [e]; exact List.Perm.refl _)
  simp only [sA, List.mem_cons, List.not_mem_nil, or_false] at hev
  rcases hev with rfl | rfl | rfl <;> exact ⟨_, _, rfl⟩

theorem sB_sched : RebuildSched cE items t0 sB := by
  obtain ⟨h2, e⟩ : (exec t0 (sB.map (·.f))).2.all isNew = true ∧
      completed (sB.map (·.call)) (exec t0 (sB.map (·.f))).2 = [(8, 108), (1, 101), (0, 100)] := by decide +kernel
  refine sched_of_eval sB (fun ev hev => ?_) h2 (by rw [e]; decide)
  simp only [sB, List.mem_cons, List.not_mem_nil, or_false] at hev
  rcases hev with rfl | rfl | rfl | rfl | rfl <;> exact ⟨_, _, rfl⟩

theorem sC_sched : RebuildSched cE items t0 sC := by
  obtain ⟨h2, e⟩ : (exec t0 (sC.map (·.f))).2.all isNew = true ∧
      completed (sC.map (·.call)) (exec t0 (sC.map (·.f))).2 = [(1, 101), (0, 100), (8, 108)] := by decide +kernel
  refine sched_of_eval sC (fun ev hev => ?_) h2 (by rw [e]; decide)
  simp only [sC, List.mem_cons, List.not_mem_nil, or_false] at hev
  rcases hev with rfl | rfl | rfl | rfl | rfl <;> exact ⟨_, _, rfl⟩

/-- the layouts differ … -/
example : keysOf (exec t0 (sA.map (·.f))).1 = [none, none, some 1, none, some 8, some 0, none, none] := by decide +kernel
example : keysOf (exec t0 (sB.map (·.f))).1 = [none, none, some 1, some 0, none, some 8, none, none] := by decide +kernel
example : keysOf (exec t0 (sC.map (·.f))).1 = [none, none, some 1, none, some 8, some 0, none, none] := by decide +kernel

/-- … the contents do not: the theorems instantiated -/
example : ∃ m1 m2 : AMap Nat Nat,
    Rel cE (exec t0 (sA.map (·.f))).1 m1 ∧ Rel cE (exec t0 (sB.map (·.f))).1 m2 ∧ m1.Perm m2 ∧
    (∀ k, m1.lookup k = m2.lookup k) ∧ (exec t0 (sA.map (·.f))).1.size = (exec t0 (sB.map (·.f))).1.size :=
  rebuild_any_interleaving_same_contents cE items items_nodup t0 t0 t0_ok.1 t0_ok.2 t0_ok.1 t0_ok.2 sA sB sA_sched sB_sched

example (k : Nat) : ((exec t0 (sB.map (·.f))).1.findVal cE k).2 = ((exec t0 (sC.map (·.f))).1.findVal cE k).2 :=
  rebuild_any_interleaving_same_finds cE items items_nodup t0 t0 t0_ok.1 t0_ok.2 t0_ok.1 t0_ok.2 sB sC sB_sched sC_sched k

example : (exec t0 (sB.map (·.f))).1.size = 3 :=
  (rebuilt cE items items_nodup t0 t0_ok.1 t0_ok.2 sB sB_sched).1.size

end Ex

end Cuckoo.Props.C02Rebuild
