import Cuckoo.Props.C03Frame
/-!
# C03Comm — read footprint, and commutation of critical sections on disjoint stripes

`Props/C03Frame.lean` proves the *write* footprint of every stripe section of `Model/Conc.lean`: a section that takes
the stripes `L` changes nothing outside `L` (`WritesWithin c L t t'`).  This file adds the *read* footprint and the
consequence the write footprints alone do not give: **two critical sections whose stripe sets are disjoint give the
same table and the same responses in either order** — the partial-order reduction of the concurrent model.  With
`Props/C01Red.lean` (holds are atomic in commit order) this says: the order in which holds on disjoint stripes commit
is immaterial.

What a section holding the stripes `L` reads (`AgreeOn c L t u`, `Proofs/Footprint/Rel.lean`):

* `loc : AgreeL c L t u` — the cells of the buckets of the stripes `L`, the counters and migrated flags of those
  stripes, and the validated scalars: hashpower, resize counter, size of the bucket array and of the lock array;
* `gold : GOld t u` — the old bucket array, whenever a migration is pending in both tables.

The two shared migration items are *not* required to be equal, and are not: `num_remaining_lazy_rehash_locks_`
(`rem`) is decremented by whoever migrates a stripe, `old_buckets_` is released by whoever brings it to 0.  What a
section does with them is a function of the stripes it takes only (`Transp c L t u t' u'`): run from `t` and from `u`
it subtracts the same number, `u'.rem + t.rem = u.rem + t'.rem`, and on either side the old array is released exactly
when the counter goes from positive to 0 (`OldRule`).

The results:

* `agreeOn_of_writes_within` — a hold on stripes disjoint from `L` in between does not disturb `AgreeOn c L`.
* `*_read_footprint` for `lockSec`, `hopSec`, `lookupSec`, `insertTrySec`, `insertLastSec`, all parameters, stale or not.
* `RSec` = `FSec` (section + stripes + legitimacy + write frame) + read footprint; one instance per section kind;
  `read_footprint_after_writes` puts the read footprint in the form "`f u` is `f t` transported".
* `sections_commute` — full table equality and both responses.
* `swap_adjacent_disjoint`, `perm_disjoint_schedule` — schedules.
* Concrete instances on the pending table of `C03Frame` (`decide +kernel`), including the release of the old array by
  whichever section comes second.

Whole-table sections (`doubleSec`, `rehashSec`, `reserveSec`, `clearSec`) take all locks and commute with nothing;
they are not `RSec`s.
-/
namespace Cuckoo.Props.C03Comm
open Cuckoo Cuckoo.Model Cuckoo.Model.Conc Cuckoo.Spec Cuckoo.Props.C03Frame
variable {κ ν : Type}

/-- if `u` is obtained from `t` by a change within stripes `L2` disjoint from `L` (another hold ran in
between), then `t` and `u` agree on `L` and on everything global a section holding `L` reads -/
theorem agreeOn_of_writes_within {c : Cfg κ} {L L2 : List Nat} {t u : Table κ ν} (h : WritesWithin c L2 t u)
    (hd : ∀ l, l ∈ L → l ∉ L2) : AgreeOn c L t u :=
  AgreeOn.of_writes h hd

theorem agreeOn_refl (c : Cfg κ) (L : List Nat) (t : Table κ ν) : AgreeOn c L t t :=
  .refl c L t

/-- the step relation in arithmetic form: `u` loses what `t` loses -/
theorem transp_rem {c : Cfg κ} {L : List Nat} {t u t1 u1 : Table κ ν} (h : Transp c L t u t1 u1) :
    u1.rem = u.rem - (t.rem - t1.rem) := by
  have := h.rem
  have := h.remT
  omega

/-- … and the old array is released exactly when the counter goes from positive to 0, otherwise left alone -/
theorem transp_old {c : Cfg κ} {L : List Nat} {t u t1 u1 : Table κ ν} (h : Transp c L t u t1 u1) :
    u1.old = (if 0 < u.rem ∧ u1.rem = 0 then none else u.old) ∧
    t1.old = (if 0 < t.rem ∧ t1.rem = 0 then none else t.old) :=
  ⟨h.oldU, h.oldT⟩

/-- `lock_one` / `lock_two` / `lock_three` on the buckets `bs`: lazy migration of their stripes -/
theorem lockSec_read_footprint (c : Cfg κ) (bs : List Nat) (t u : Table κ ν) (ht : Inv c t) (hu : Inv c u)
    (ha : AgreeOn c (bs.map c.lockInd) t u) :
    (lockSec (ν := ν) c bs u).2 = (lockSec (ν := ν) c bs t).2 ∧
    Transp c (bs.map c.lockInd) t u (lockSec (ν := ν) c bs t).1 (lockSec (ν := ν) c bs u).1 :=
  ⟨rfl, (par_lockSec c _ bs t u (fun _ hb => List.mem_map_of_mem hb) ht hu ha).tr⟩

/-- one hop of `cuckoopath_move`, any snapshot, any path records -/
theorem hopSec_read_footprint (c : Cfg κ) (hpS rcS : Nat) (fr to : PathRec) (t u : Table κ ν) (ht : Inv c t)
    (hu : Inv c u) (ha : AgreeOn c [c.lockInd fr.bucket, c.lockInd to.bucket] t u) :
    (hopSec c hpS rcS fr to u).2 = (hopSec c hpS rcS fr to t).2 ∧
    Transp c [c.lockInd fr.bucket, c.lockInd to.bucket] t u (hopSec c hpS rcS fr to t).1 (hopSec c hpS rcS fr to u).1 :=
  (par_hopSec c hpS rcS fr to t u ht hu ha).imp id Par.tr

variable [DecidableEq κ]

/-- `find_fn` / `update_fn` / `erase_fn` -/
theorem lookupSec_read_footprint (c : Cfg κ) (ce : Bool) (k : κ) (fn : ν → FnOut ν) (t u : Table κ ν) (ht : Inv c t)
    (hu : Inv c u) (ha : AgreeOn c [c.lockInd (c.i1 t.hp k), c.lockInd (c.i2 t.hp k)] t u) :
    (lookupSec c ce k fn u).2 = (lookupSec c ce k fn t).2 ∧
    Transp c [c.lockInd (c.i1 t.hp k), c.lockInd (c.i2 t.hp k)] t u (lookupSec c ce k fn t).1
      (lookupSec c ce k fn u).1 :=
  (par_lookupSec c ce k fn t u ht hu ha).imp id Par.tr

/-- the first section of an inserting call -/
theorem insertTrySec_read_footprint (c : Cfg κ) (k : κ) (v : ν) (ca me : Bool) (fn : Ctx → ν → FnOut ν)
    (t u : Table κ ν) (ht : Inv c t) (hu : Inv c u)
    (ha : AgreeOn c [c.lockInd (c.i1 t.hp k), c.lockInd (c.i2 t.hp k)] t u) :
    (insertTrySec c k v ca me fn u).2 = (insertTrySec c k v ca me fn t).2 ∧
    Transp c [c.lockInd (c.i1 t.hp k), c.lockInd (c.i2 t.hp k)] t u (insertTrySec c k v ca me fn t).1
      (insertTrySec c k v ca me fn u).1 :=
  (par_insertTrySec c k v ca me fn t u ht hu ha).imp id Par.tr

/-- the last section of a displacing insertion (stale snapshot, stale path records) -/
theorem insertLastSec_read_footprint (c : Cfg κ) (hpS rcS : Nat) (k : κ) (v : ν) (ca me : Bool)
    (fn : Ctx → ν → FnOut ν) (fr : PathRec) (to : Option PathRec) (t u : Table κ ν) (ht : Inv c t) (hu : Inv c u)
    (ha : AgreeOn c (lastStripes c hpS k to) t u) :
    (insertLastSec c hpS rcS k v ca me fn fr to u).2 = (insertLastSec c hpS rcS k v ca me fn fr to t).2 ∧
    Transp c (lastStripes c hpS k to) t u (insertLastSec c hpS rcS k v ca me fn fr to t).1
      (insertLastSec c hpS rcS k v ca me fn fr to u).1 :=
  (par_insertLastSec c hpS rcS k v ca me fn fr to t u ht hu ha).imp id Par.tr

/-- a stripe section with its stripes, its legitimacy, its write footprint (`FSec`) and its read footprint -/
structure RSec (c : Cfg κ) (ν : Type) extends FSec c ν where
  /-- the stripes depend on the table through the hashpower only (which no stripe section changes) -/
  stripes_hp : ∀ t u : Table κ ν, u.hp = t.hp → stripes u = stripes t
  read : ∀ t u : Table κ ν, Inv c t → Inv c u → AgreeOn c (stripes t) t u →
    (f u).2 = (f t).2 ∧ Transp c (stripes t) t u (f t).1 (f u).1

/-- every stripe section of `Model/Conc.lean` is one, for all parameters -/
def RSec.lock (c : Cfg κ) (call : C01Conc.Call κ ν) (bs : List Nat) : RSec c ν :=
  { FSec.lock c call bs with
    stripes_hp := fun _ _ _ => rfl
    read := fun t u ht hu ha => lockSec_read_footprint c bs t u ht hu ha }
def RSec.hop (c : Cfg κ) (call : C01Conc.Call κ ν) (hpS rcS : Nat) (fr to : PathRec) : RSec c ν :=
  { FSec.hop c call hpS rcS fr to with
    stripes_hp := fun _ _ _ => rfl
    read := fun t u ht hu ha => hopSec_read_footprint c hpS rcS fr to t u ht hu ha }
def RSec.lookup (c : Cfg κ) (canErase : Bool) (k : κ) (fn : ν → FnOut ν) : RSec c ν :=
  { FSec.lookup c canErase k fn with
    stripes_hp := fun t u e => by
      show [c.lockInd (c.i1 u.hp k), c.lockInd (c.i2 u.hp k)] = [c.lockInd (c.i1 t.hp k), c.lockInd (c.i2 t.hp k)]
      rw [e]
    read := fun t u ht hu ha => lookupSec_read_footprint c canErase k fn t u ht hu ha }
def RSec.insertTry (c : Cfg κ) (k : κ) (v : ν) (ca me : Bool) (fn : Ctx → ν → FnOut ν) : RSec c ν :=
  { FSec.insertTry c k v ca me fn with
    stripes_hp := fun t u e => by
      show [c.lockInd (c.i1 u.hp k), c.lockInd (c.i2 u.hp k)] = [c.lockInd (c.i1 t.hp k), c.lockInd (c.i2 t.hp k)]
      rw [e]
    read := fun t u ht hu ha => insertTrySec_read_footprint c k v ca me fn t u ht hu ha }
def RSec.insertLast (c : Cfg κ) (hpS rcS : Nat) (k : κ) (v : ν) (ca me : Bool) (fn : Ctx → ν → FnOut ν)
    (fr : PathRec) (to : Option PathRec) : RSec c ν :=
  { FSec.insertLast c hpS rcS k v ca me fn fr to with
    stripes_hp := fun _ _ _ => rfl
    read := fun t u ht hu ha => insertLastSec_read_footprint c hpS rcS k v ca me fn fr to t u ht hu ha }

/-- if `u` is obtained from `t` by a change within stripes `L2` disjoint from the stripes of `e`, then `e` run from
`u` is `e` run from `t`, transported: same response; it writes within its stripes; the results agree on its stripes;
`u` loses of `rem` what `t` loses; the old array is released iff the counter hits 0 -/
theorem read_footprint_after_writes (c : Cfg κ) (e : RSec c ν) (L2 : List Nat) (t u : Table κ ν) (ht : Inv c t)
    (hu : Inv c u) (hw : WritesWithin c L2 t u) (hd : ∀ l, l ∈ e.stripes t → l ∉ L2) :
    (e.f u).2 = (e.f t).2 ∧
    WritesWithin c (e.stripes t) u (e.f u).1 ∧
    AgreeL c (e.stripes t) (e.f t).1 (e.f u).1 ∧
    (e.f u).1.rem = u.rem - (t.rem - (e.f t).1.rem) ∧
    (e.f u).1.old = (if 0 < u.rem ∧ (e.f u).1.rem = 0 then none else u.old) := by
  obtain ⟨r, tr⟩ := e.read t u ht hu (agreeOn_of_writes_within hw hd)
  have hs : e.stripes u = e.stripes t := e.stripes_hp t u hw.hp
  have hf := e.frame u hu
  rw [hs] at hf
  exact ⟨r, hf, tr.agree, transp_rem tr, tr.oldU⟩

/-- sections on disjoint stripes commute: the two orders give the same table (as a value: bucket array, old
array, lock array, superseded lock arrays, `rem`, resize counter, settings) and each section gives the response it
gives when it runs first -/
theorem sections_commute (c : Cfg κ) (f g : RSec c ν) (t : Table κ ν) (m : AMap κ ν) (h : Inv c t) (hr : Rel c t m)
    (hd : ∀ l, l ∈ f.stripes t → l ∉ g.stripes t) :
    (g.f (f.f t).1).1 = (f.f (g.f t).1).1 ∧
    (g.f (f.f t).1).2 = (g.f t).2 ∧ (f.f (g.f t).1).2 = (f.f t).2 := by
  have hd2 : ∀ l, l ∈ g.stripes t → l ∉ f.stripes t := fun l h2 h1 => hd l h1 h2
  have i1 : Inv c (f.f t).1 := (f.ok t m h hr).1
  have i2 : Inv c (g.f t).1 := (g.ok t m h hr).1
  have w1 := f.frame t h
  have w2 := g.frame t h
  have sg : g.stripes (f.f t).1 = g.stripes t := g.stripes_hp t _ w1.hp
  have sf : f.stripes (g.f t).1 = f.stripes t := f.stripes_hp t _ w2.hp
  have w12 := g.frame (f.f t).1 i1
  rw [sg] at w12
  have w21 := f.frame (g.f t).1 i2
  rw [sf] at w21
  obtain ⟨rg, tg⟩ := g.read t (f.f t).1 h i1 (AgreeOn.of_writes w1 hd2)
  obtain ⟨rf, tf⟩ := f.read t (g.f t).1 h i2 (AgreeOn.of_writes w2 hd)
  exact ⟨commute_core c h.S_pos hd w1 w2 w12 w21 tg tf, rg, rf⟩

omit [DecidableEq κ] in
/-- the special case of two lazy migrations, `rehash_lock<kIsLazy>(i)` and `rehash_lock<kIsLazy>(j)`, `i ≠ j`, as an
equation between tables: including `num_remaining_lazy_rehash_locks_` and the release of `old_buckets_` by whichever
of the two migrates the last stripe.  (`rehashLock_false_comm` in `Proofs/Footprint/Commute.lean` is the non-lazy case,
which touches neither.) -/
theorem lazy_migration_commutes (c : Cfg κ) (t : Table κ ν) (h : Inv c t) (i j : Nat) (hij : i ≠ j) :
    (t.rehashLock c i true).rehashLock c j true = (t.rehashLock c j true).rehashLock c i true := by
  have mi : i ∈ [i] := List.mem_singleton.mpr rfl
  have mj : j ∈ [j] := List.mem_singleton.mpr rfl
  have i1 := (rehashLock_lazy_step c t i h).inv
  have i2 := (rehashLock_lazy_step c t j h).inv
  have w1 := ww_rehashLock c [i] t i true h mi
  have w2 := ww_rehashLock c [j] t j true h mj
  exact commute_core c h.S_pos (disjoint_singletons hij) w1 w2 (ww_rehashLock c [j] _ j true i1 mj)
    (ww_rehashLock c [i] _ i true i2 mi)
    (rehashLock_transp c [j] t _ j mj h i1 (AgreeOn.of_writes w1 (disjoint_singletons hij.symm)))
    (rehashLock_transp c [i] t _ i mi h i2 (AgreeOn.of_writes w2 (disjoint_singletons hij)))

/-- run a schedule, pairing every response with the section that gave it -/
def execT (c : Cfg κ) (t : Table κ ν) : List (RSec c ν) → Table κ ν × List (RSec c ν × Option (Resp ν))
  | [] => (t, [])
  | e :: es => ((execT c (e.f t).1 es).1, (e, (e.f t).2) :: (execT c (e.f t).1 es).2)

theorem execT_exec (c : Cfg κ) (es : List (RSec c ν)) (t : Table κ ν) :
    (execT c t es).1 = (exec t (es.map (·.f))).1 ∧
    (execT c t es).2.map Prod.snd = (exec t (es.map (·.f))).2 ∧ (execT c t es).2.map Prod.fst = es := by
  induction es generalizing t with
  | nil => exact ⟨rfl, rfl, rfl⟩
  | cons e rest ih =>
    obtain ⟨a, b, d⟩ := ih (e.f t).1
    refine ⟨a, ?_, ?_⟩
    · show (e.f t).2 :: (execT c (e.f t).1 rest).2.map Prod.snd = _
      rw [b]; rfl
    · show e :: (execT c (e.f t).1 rest).2.map Prod.fst = _
      rw [d]

theorem execT_cons (c : Cfg κ) (e : RSec c ν) (es : List (RSec c ν)) (t : Table κ ν) :
    execT c t (e :: es) = ((execT c (e.f t).1 es).1, (e, (e.f t).2) :: (execT c (e.f t).1 es).2) := rfl

theorem execT_append (c : Cfg κ) (a b : List (RSec c ν)) (t : Table κ ν) :
    execT c t (a ++ b) = ((execT c (execT c t a).1 b).1, (execT c t a).2 ++ (execT c (execT c t a).1 b).2) := by
  induction a generalizing t with
  | nil => rfl
  | cons e rest ih =>
    show ((execT c (e.f t).1 (rest ++ b)).1, (e, (e.f t).2) :: (execT c (e.f t).1 (rest ++ b)).2) = _
    rw [ih]
    rfl

theorem execT_inv (c : Cfg κ) (es : List (RSec c ν)) (t : Table κ ν) (m : AMap κ ν) (h : Inv c t) (hr : Rel c t m) :
    ∃ m1, Inv c (execT c t es).1 ∧ Rel c (execT c t es).1 m1 := by
  induction es generalizing t m with
  | nil => exact ⟨m, h, hr⟩
  | cons e rest ih =>
    obtain ⟨m1, i1, r1⟩ := e.toFSec.step h hr
    exact ih (e.f t).1 m1 i1 r1

/-- in any schedule two adjacent sections whose stripes are disjoint (in the state where the first of them
starts) can be swapped: the final table is the same, and so is every response — the two responses change places with
their sections -/
theorem swap_adjacent_disjoint (c : Cfg κ) (pre post : List (RSec c ν)) (f g : RSec c ν) (t : Table κ ν)
    (m : AMap κ ν) (h : Inv c t) (hr : Rel c t m)
    (hd : ∀ l, l ∈ f.stripes (execT c t pre).1 → l ∉ g.stripes (execT c t pre).1) :
    (execT c t (pre ++ f :: g :: post)).1 = (execT c t (pre ++ g :: f :: post)).1 ∧
    ∃ rs1 rf rg rs2,
      (execT c t (pre ++ f :: g :: post)).2 = rs1 ++ (f, rf) :: (g, rg) :: rs2 ∧
      (execT c t (pre ++ g :: f :: post)).2 = rs1 ++ (g, rg) :: (f, rf) :: rs2 ∧
      rs1.length = pre.length := by
  obtain ⟨m1, i1, r1⟩ := execT_inv c pre t m h hr
  obtain ⟨e1, e2, e3⟩ := sections_commute c f g (execT c t pre).1 m1 i1 r1 hd
  have hlen : (execT c t pre).2.length = pre.length := by
    rw [← List.length_map (f := Prod.fst), (execT_exec c pre t).2.2]
  simp only [execT_append, execT_cons, e1, e2, e3]
  exact ⟨trivial, _, _, _, _, rfl, rfl, hlen⟩

theorem swap_adjacent_disjoint_exec (c : Cfg κ) (pre post : List (RSec c ν)) (f g : RSec c ν) (t : Table κ ν)
    (m : AMap κ ν) (h : Inv c t) (hr : Rel c t m)
    (hd : ∀ l, l ∈ f.stripes (exec t (pre.map (·.f))).1 → l ∉ g.stripes (exec t (pre.map (·.f))).1) :
    (exec t ((pre ++ f :: g :: post).map (·.f))).1 = (exec t ((pre ++ g :: f :: post).map (·.f))).1 ∧
    ∃ rs1 rf rg rs2,
      (exec t ((pre ++ f :: g :: post).map (·.f))).2 = rs1 ++ rf :: rg :: rs2 ∧
      (exec t ((pre ++ g :: f :: post).map (·.f))).2 = rs1 ++ rg :: rf :: rs2 ∧
      rs1.length = pre.length := by
  rw [← (execT_exec c pre t).1] at hd
  obtain ⟨a, rs1, rf, rg, rs2, b1, b2, b3⟩ := swap_adjacent_disjoint c pre post f g t m h hr hd
  rw [← (execT_exec c _ t).1, ← (execT_exec c _ t).1, ← (execT_exec c _ t).2.1, ← (execT_exec c _ t).2.1, b1, b2]
  refine ⟨a, rs1.map Prod.snd, rf, rg, rs2.map Prod.snd, ?_, ?_, ?_⟩
  · simp
  · simp
  · rw [List.length_map]; exact b3

/-- schedules related by a sequence of swaps of adjacent sections with disjoint stripes (disjoint in the state in which
the first of the two starts) -/
inductive SwapEq (c : Cfg κ) (t : Table κ ν) : List (RSec c ν) → List (RSec c ν) → Prop
  | refl (es : List (RSec c ν)) : SwapEq c t es es
  | swap (pre post : List (RSec c ν)) (f g : RSec c ν)
      (hd : ∀ l, l ∈ f.stripes (execT c t pre).1 → l ∉ g.stripes (execT c t pre).1) :
      SwapEq c t (pre ++ f :: g :: post) (pre ++ g :: f :: post)
  | trans {a b d : List (RSec c ν)} : SwapEq c t a b → SwapEq c t b d → SwapEq c t a d

/-- schedules related by such swaps are equivalent: same final table, and the same responses section
by section (the labelled response lists are permutations of each other) -/
theorem perm_disjoint_schedule (c : Cfg κ) (t : Table κ ν) (m : AMap κ ν) (h : Inv c t) (hr : Rel c t m)
    {a b : List (RSec c ν)} (hs : SwapEq c t a b) :
    (execT c t a).1 = (execT c t b).1 ∧ (execT c t a).2.Perm (execT c t b).2 := by
  induction hs with
  | refl es => exact ⟨rfl, List.Perm.refl _⟩
  | swap pre post f g hd =>
    obtain ⟨e, rs1, rf, rg, rs2, b1, b2, _⟩ := swap_adjacent_disjoint c pre post f g t m h hr hd
    rw [b1, b2]
    exact ⟨e, List.Perm.append_left rs1 (List.Perm.swap _ _ _)⟩
  | trans _ _ ih1 ih2 => exact ⟨ih1.1.trans ih2.1, ih1.2.trans ih2.2⟩

/-! ### non-vacuity: the pending table of `C03Frame` (2 stripes, both pending, `rem = 2`) -/

/-- the erase of key 1 (both candidate buckets 1 and 3 in stripe 1) -/
def eraseOne : Section Nat Nat := lookupSec cE true 1 (fun v => .ret v true)

/-- what is compared: keys cell by cell, both locks, `rem`, whether the old array is still allocated, resize counter -/
def proj (t : Table Nat Nat) : List (List (Option Nat)) × Option (Int × Bool) × Option (Int × Bool) × Nat × Bool × Nat :=
  (keysOf t, lockAt t 0, lockAt t 1, t.rem, t.old.isSome, t.rc)

/-- what is compared of a response: the Boolean result (or `none` for an exception) and the values the functor saw -/
def respProj : Option (Resp Nat) → Option (Option Bool × List Nat)
  | some (.bool (.ok a) cs) => some (some a, cs.map (·.seen))
  | some (.bool (.err _) cs) => some (none, cs.map (·.seen))
  | _ => none

/-- `lock_one(0)` (stripe 0) and `erase(1)` (stripe 1) in both orders on the pending table: each migrates its own
stripe, the second one — whichever it is — brings `rem` to 0 and releases the old array; everything coincides -/
example :
    proj (eraseOne (lockSec (ν := Nat) cE [0] tPend).1).1 = proj (lockSec (ν := Nat) cE [0] (eraseOne tPend).1).1 := by
  decide +kernel

/-- … namely: keys 0 and 2 split over buckets 0 and 2, key 3 alone in bucket 3 (key 1 erased), both stripes migrated,
counter of stripe 1 decremented, `rem = 0`, old array released -/
example :
    proj (eraseOne (lockSec (ν := Nat) cE [0] tPend).1).1 =
      ([[none, some 0], [none, none], [some 2, none], [some 3, none]], some (2, true), some (1, true), 0, false, 1) := by
  decide +kernel

/-- after the first of the two the old array is still there, in either order: the release is done by the second -/
example :
    (lockSec (ν := Nat) cE [0] tPend).1.old.isSome = true ∧ (lockSec (ν := Nat) cE [0] tPend).1.rem = 1 ∧
    (eraseOne tPend).1.old.isSome = true ∧ (eraseOne tPend).1.rem = 1 := by
  decide +kernel

/-- the responses do not depend on the order either: the erase finds its key (`true`, one functor call on value 10) -/
example :
    respProj (eraseOne (lockSec (ν := Nat) cE [0] tPend).1).2 = respProj (eraseOne tPend).2 ∧
    respProj (eraseOne tPend).2 = some (some true, [10]) ∧
    respProj (lockSec (ν := Nat) cE [0] (eraseOne tPend).1).2 = respProj (lockSec (ν := Nat) cE [0] tPend).2 := by
  decide +kernel

theorem pend_disjoint : ∀ l, l ∈ (RSec.lock cE (.lookup true 1 (fun v => .ret v true)) [0]).stripes tPend →
    l ∉ (RSec.lookup cE true 1 (fun v => .ret v true)).stripes tPend := by
  decide +kernel

/-- the same through the theorem: full table equality, hence every projection -/
example : (eraseOne (lockSec (ν := Nat) cE [0] tPend).1).1 = (lockSec (ν := Nat) cE [0] (eraseOne tPend).1).1 := by
  obtain ⟨m, r0⟩ := tPend_rel
  exact (sections_commute cE (RSec.lock cE (.lookup true 1 (fun v => .ret v true)) [0])
    (RSec.lookup cE true 1 (fun v => .ret v true)) tPend m tPend_inv r0 pend_disjoint).1

/-- a stale last section of an insertion of key 5 (snapshot hashpower 2, any resize counter, any path record with
`fr.bucket = 1`) takes stripe 1 only: it commutes with `lock_one(0)` on the pending table, whatever it does -/
example (rcS : Nat) (fr : PathRec) :
    (insertLastSec cE 2 rcS 5 50 false false idFn fr none (lockSec (ν := Nat) cE [0] tPend).1).1 =
      (lockSec (ν := Nat) cE [0] (insertLastSec cE 2 rcS 5 50 false false idFn fr none tPend).1).1 ∧
    (insertLastSec cE 2 rcS 5 50 false false idFn fr none (lockSec (ν := Nat) cE [0] tPend).1).2 =
      (insertLastSec cE 2 rcS 5 50 false false idFn fr none tPend).2 := by
  obtain ⟨m, r0⟩ := tPend_rel
  have hd : ∀ l, l ∈ [cE.lockInd 0] → l ∉ lastStripes cE 2 5 none := by decide +kernel
  obtain ⟨a, b, _⟩ := sections_commute cE (RSec.lock cE (.uprase 5 50 false false idFn) [0])
    (RSec.insertLast cE 2 rcS 5 50 false false idFn fr none) tPend m tPend_inv r0 hd
  exact ⟨a, b⟩

/-- sections on the *same* stripe do not commute in general (so the disjointness hypothesis is needed): `erase(1)`
and a `find(1)` give different responses in the two orders -/
example :
    respProj (lookupSec cE false 1 (fun v => .ret v false) (eraseOne tPend).1).2 = some (some false, []) ∧
    respProj (lookupSec cE false 1 (fun v => .ret v false) tPend).2 = some (some true, [10]) := by
  decide +kernel

end Cuckoo.Props.C03Comm
