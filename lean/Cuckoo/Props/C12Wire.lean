import Cuckoo.Gen.Wire
import Cuckoo.Model.Ops
/-!
# C12 — the stream image is read in the order in which it is written, and it is the model's `Wire` (T-G)

`Gen/Wire.lean` is regenerated on every run from the text of the four stream operators.  The theorems are decided on it:
the reader consumes exactly the fields the writer produces — hashpower, the raw bucket array, the element count, the minimum
load factor, the maximum hashpower — in the same order and with the same widths; the steps of `operator>>` of a locked table
(replace the bucket array, grow the lock array, advance the resize counter, zero the counters, store the count in stripe 0,
apply the two settings through their validating setters) are the steps of `Table.read`; and the binary reader performs no
formatted input (a `std::istream::sentry` with `skipws` would swallow bytes of the image: seeded change
`C12-stream-extraction-sentry-skips-whitespace`).
-/
namespace Cuckoo.Props.C12Wire
open Cuckoo.Gen.Wire

/-- the fields of one side (name, width — the translator puts a width into normal form: factors sorted, container prefix
dropped), nested bucket-container operator expanded -/
def expand (inner : List (String × String × String)) : List (String × String × String) → List (String × String)
  | [] => []
  | ("nested", _, _) :: rest => inner.map (fun x => (x.2.1, x.2.2)) ++ expand inner rest
  | (_, w, sz) :: rest => (w, sz) :: expand inner rest

/-- the writer and the reader agree field by field (name and width), for the bucket container and for the locked table -/
theorem image_read_as_written :
    bcWrite = bcRead ∧ expand bcWrite ltWrite = expand bcRead ltRead :=
  ⟨rfl, rfl⟩

/-- the image is the model's `Wire`: hashpower, cells, size, minimum load factor, maximum hashpower — in this order, the
count and the hashpower as `size_type`, the load factor as a `double` -/
theorem image_is_wire :
    expand bcWrite ltWrite =
      [("hp", "sizeof(size_type)"), ("buckets_", "size()*sizeof(bucket)"), ("size", "sizeof(size_type)"),
       ("mlf", "sizeof(double)"), ("mhp", "sizeof(size_type)")] :=
  rfl

/-- the steps of `operator>>` are those of `Model.Table.read` (with `bump = true`, the repaired F2): bucket array first, then
the lock array, the resize counter, the counters, and the two settings through the validating setters LAST (so an image
with settings out of their domain raises `invalid_argument` only after the contents were replaced — as the model does) -/
theorem read_steps_are_model_steps :
    ltRead_steps = ["is>>lt.buckets()", "lt.maybe_resize_locks", "lt.bump_resize_counter", "lock.elem_counter()=0", "is.read",
                    "lt.get_current_locks()[0].elem_counter()=size", "is.read", "is.read", "lt.minimum_load_factor(mlf)",
                    "lt.maximum_hashpower(mhp)"] :=
  rfl

theorem reader_is_unformatted : ltRead_formatted_input = false := rfl

/-! non-vacuity: a reader that takes the count as a `double` is rejected -/
example : expand bcWrite ltWrite ≠ expand bcRead [("nested", "lt.buckets()", ""), ("raw", "size", "sizeof(double)")] := by decide +kernel

end Cuckoo.Props.C12Wire
