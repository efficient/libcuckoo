import Cuckoo.Model.Conc
import Cuckoo.Props.C02
import Cuckoo.Proofs.Sections
/-!
# C01 (second half) — every interleaving of critical sections is linearizable

`Model/Conc.lean` defines the atomic critical sections the operations consist of, each applicable to *any* table
state with *any* (possibly stale) local data.  Here:

* `SecOf c call f` : `f` is a legitimate section of `call` — from every state satisfying the invariant it preserves the
  invariant, never decreases the resize counter and changes the hashpower only together with it, and either leaves
  the abstract map unchanged (internal section) or is the call's final section and transforms the abstract map and
  answers exactly as the sequential specification of that call does.
* every concrete section of the code is `SecOf` its call, for all parameters (`*_sec` theorems);
* `conc_linearizable`: for every schedule — any finite sequence of sections of any calls of any threads, i.e. every
  interleaving — the final sections, in the order in which they take effect, form a sequential execution of the abstract
  map that yields every response, and the final table represents the final map.  Since a call's final section takes
  effect between its invocation and its return, that order respects real time: this is linearizability, with the
  final sections as linearization points.
* `rc_check_implies_hp_check`: along any schedule, an unchanged resize counter implies an unchanged hashpower, so the
  code's re-validation of the counter alone is as good as the model's check of both.

What is **assumed** (DESIGN 12.2): that the block of code of one lock-hold, run atomically on the current table, is
the section function of `Model/Conc.lean`.  That holds are atomic is the protocol theorems of `Props/C01.lean` /
`C03.lean` with the two-phase-locking reduction of `Props/C01Red.lean`; a locked_table section is a run of sequential
steps (C02) by its owner (`Props/C06Conc.lean`); helper threads are in `Props/C02Par.lean` and `Props/C02Rebuild.lean`.
-/
namespace Cuckoo.Props.C01Conc
open Cuckoo Cuckoo.Model Cuckoo.Model.Conc Cuckoo.Spec
variable {κ ν : Type} [DecidableEq κ]

/-- the calls of a client program (find/contains/update/erase are `lookup`; insert/insert_or_assign/upsert/uprase_fn are `uprase`) -/
inductive Call (κ ν : Type)
  | lookup (canErase : Bool) (k : κ) (fn : ν → FnOut ν)
  | uprase (k : κ) (v : ν) (ctxAware mayErase : Bool) (fn : Ctx → ν → FnOut ν)
  | rehash (n : Nat)
  | reserve (n : Nat)
  | clear

/-- sequential specification of a finished call: response `r` and next map `m'` from map `m` -/
def specOf (m : AMap κ ν) : Call κ ν → Resp ν → AMap κ ν → Prop
  | .lookup ce k fn, r, m' =>
    (match m.lookup k with
     | none => r = .bool (.ok false) [] ∧ m' = m
     | some v =>
       match fn v with
       | .ret v' er => r = .bool (.ok true) [⟨none, v⟩] ∧ m' = (if ce && er then m.erase k else m.set k v')
       | .throw v' => r = .bool (.err .fnThrow) [⟨none, v⟩] ∧ m' = m.set k v')
  | .uprase k v ca me fn, r, m' =>
    (∃ e, ResizeErr e ∧ r = .bool (.err e) [] ∧ m' = m) ∨
    (r = .bool (C02.upraseSpec m k v ca me fn).1 (C02.upraseSpec m k v ca me fn).2.1 ∧ m' = (C02.upraseSpec m k v ca me fn).2.2)
  | .rehash _, r, m' => r = .unit ∧ m' = m
  | .reserve _, r, m' => r = .unit ∧ m' = m
  | .clear, r, m' => r = .unit ∧ m' = []

/-- `f` is a legitimate critical section of `call` -/
def SecOf (c : Cfg κ) (call : Call κ ν) (f : Section κ ν) : Prop :=
  ∀ t m, Inv c t → Rel c t m →
    Inv c (f t).1 ∧ t.rc ≤ (f t).1.rc ∧ ((f t).1.rc = t.rc → (f t).1.hp = t.hp) ∧
    match (f t).2 with
    | none => Rel c (f t).1 m
    | some r => ∃ m', specOf m call r m' ∧ Rel c (f t).1 m'

section
variable {c : Cfg κ} {call : Call κ ν} {f : Section κ ν}

theorem SecOf.of_resized
    (H : ∀ t, Inv c t → Resized c t (f t).1 ∧
      ((f t).2 = none ∨ ∃ r, (f t).2 = some r ∧ ∀ m, specOf m call r m)) : SecOf c call f := by
  intro t m h hr
  obtain ⟨z, o⟩ := H t h
  refine ⟨z.inv, z.rc, z.rc_hp, ?_⟩
  have hr' := hr.of_same z.same
  rcases o with e | ⟨r, e, s⟩ <;> rw [e]
  · exact hr'
  · exact ⟨m, s m, hr'⟩

theorem SecOf.internal (H : ∀ t, Inv c t → Step c t (f t).1 ∧ (f t).2 = none) : SecOf c call f :=
  .of_resized fun t h => have ⟨s, e⟩ := H t h; ⟨.of_step s, .inl e⟩

/-- a resize under all locks that answers `unit`, as the final section of a call whose specification allows that answer
without a change of the map -/
theorem SecOf.of_post {α : Type} {g : Table κ ν → Table κ ν × Res α}
    {Q : Table κ ν → Res α → Table κ ν → Prop} (hspec : ∀ m, specOf m call .unit m)
    (H : ∀ t, Inv c t → (false = true → AllMig t) → Post c false t (Q t) (g t)) :
    SecOf c call fun t => ((g t).1, some .unit) :=
  .of_resized fun t h =>
    have p := H t h (fun e => by cases e)
    ⟨p.toResized, .inr ⟨.unit, rfl, hspec⟩⟩

theorem SecOf.of_keeps
    (H : ∀ t m, Inv c t → Rel c t m → Inv c (f t).1 ∧ Keeps c t (f t).1 ∧
      match (f t).2 with
      | none => Rel c (f t).1 m
      | some r => ∃ m', specOf m call r m' ∧ Rel c (f t).1 m') : SecOf c call f :=
  fun t m h hr => have ⟨i, a, o⟩ := H t m h hr; ⟨i, (RcGuard.of_keeps a).rc, (RcGuard.of_keeps a).rc_hp, o⟩

theorem SecOf.step (hs : SecOf c call f) {t : Table κ ν} {m : AMap κ ν} (h : Inv c t) (hr : Rel c t m) :
    ∃ m1, Inv c (f t).1 ∧ Rel c (f t).1 m1 ∧ RcGuard t (f t).1 ∧
      ((f t).2 = none ∧ m1 = m ∨ ∃ r, (f t).2 = some r ∧ specOf m call r m1) := by
  obtain ⟨i, g1, g2, o⟩ := hs t m h hr
  split at o
  · next e => exact ⟨m, i, o, ⟨g1, g2⟩, .inl ⟨e, rfl⟩⟩
  · next r e =>
    obtain ⟨m1, s, r1⟩ := o
    exact ⟨m1, i, r1, ⟨g1, g2⟩, .inr ⟨r, e, s⟩⟩

end

theorem lockSec_sec (c : Cfg κ) (call : Call κ ν) (bs : List Nat) : SecOf c call (lockSec c bs) :=
  .internal fun t h => by
    rw [lockSec_eq_lockL]
    exact ⟨(lockL_step c _ t h).1, rfl⟩

omit [DecidableEq κ] in
theorem lastMove_step (c : Cfg κ) (t1 t2 : Table κ ν) (fr : PathRec) (to : Option PathRec) (h : Inv c t1)
    (hto : ∀ p, to = some p → t1.unmigB c p.bucket = false) (hm : lastMove c t1.hp t1 fr to = some t2) :
    Step c t1 t2 ∧ t2.cur.get c.S fr.bucket fr.slot = none := by
  cases to with
  | none =>
    rw [lastMove, Store.occ] at hm
    split at hm
    · cases hm
    · rename_i hocc
      cases hm
      exact ⟨.refl h, Option.not_isSome_iff_eq_none.mp hocc⟩
  | some to =>
    rw [lastMove] at hm
    split at hm
    · rename_i hg
      simp only [Bool.and_eq_true, beq_iff_eq, decide_eq_true_eq] at hg
      exact hop_step c t1 t2 fr to h hm hg.1 hg.2 (hto to rfl)
    · cases hm

theorem hopSec_sec (c : Cfg κ) (call : Call κ ν) (hpS rcS : Nat) (fr to : PathRec) :
    SecOf c call (hopSec c hpS rcS fr to) :=
  .internal fun t h => by
    obtain ⟨s, _, u⟩ := lockTwo_step c t fr.bucket to.bucket h
    rw [hopSec_eq]
    refine ⟨?_, rfl⟩
    dsimp only
    generalize t.lockTwo c fr.bucket to.bucket = t1 at *
    split
    · next hv =>
      obtain ⟨_, rfl⟩ := valid_iff.mp hv
      cases hm : lastMove c t1.hp t1 fr (some to) with
      | none => exact s
      | some t2 => exact s.trans (lastMove_step c t1 t2 fr (some to) s.inv (fun p e => by cases e; exact u) hm).1
    · exact s

/-- the clause of `specOf` for a lookup is the function `fnOpSpec` -/
theorem specOf_lookup (m : AMap κ ν) (ce : Bool) (k : κ) (fn : ν → FnOut ν) :
    specOf m (.lookup ce k fn) (.bool (C02.fnOpSpec m ce k fn).1 (C02.fnOpSpec m ce k fn).2.1) (C02.fnOpSpec m ce k fn).2.2 := by
  unfold specOf C02.fnOpSpec C02.tailSpec
  dsimp only
  cases m.lookup k with
  | none => exact ⟨rfl, rfl⟩
  | some v => dsimp only; cases fn v <;> exact ⟨rfl, rfl⟩

theorem lookupSec_sec (c : Cfg κ) (ce : Bool) (k : κ) (fn : ν → FnOut ν) :
    SecOf c (.lookup ce k fn) (lookupSec c ce k fn) := .of_keeps fun t m h hr => by
  obtain ⟨a, r1, r2⟩ := fnOp_sim c ce t m k fn h hr
  refine ⟨a.inv, a.keeps, _, ?_, a.rel⟩
  rw [r1, r2]
  exact specOf_lookup m ce k fn

theorem finish_sec (c : Cfg κ) (t0 t : Table κ ν) (m : AMap κ ν) (k : κ) (v : ν) (ca me : Bool)
    (fn : Ctx → ν → FnOut ν) (p : InsPos) (s : Step c t0 t) (hr : Rel c t0 m) (hins : InsOK c t k p) :
    Inv c (finishInsert c t k v ca me fn p).1 ∧ Keeps c t0 (finishInsert c t k v ca me fn p).1 ∧
    ∃ m', specOf m (.uprase k v ca me fn) (finishInsert c t k v ca me fn p).2 m' ∧
      Rel c (finishInsert c t k v ca me fn p).1 m' := by
  obtain ⟨a, a3, _⟩ := finishInsert_sim c t m k v ca me fn p s.inv (hr.of_same s.same) hins
  exact ⟨a.inv, s.keeps.trans a.keeps, _, .inr ⟨a3, rfl⟩, a.rel⟩

theorem insertTrySec_sec (c : Cfg κ) (k : κ) (v : ν) (ca me : Bool) (fn : Ctx → ν → FnOut ν) :
    SecOf c (.uprase k v ca me fn) (insertTrySec c k v ca me fn) :=
  .of_keeps fun t m h hr => by
    obtain ⟨s, u1, u2⟩ := lockTwo_step c t (c.i1 t.hp k) (c.i2 t.hp k) h
    rw [insertTrySec_eq]
    generalize t.lockTwo c (c.i1 t.hp k) (c.i2 t.hp k) = t1 at *
    have ts := tryInsert_spec c t1 k s.inv s.keeps.hp u1 u2
    cases htry : tryInsert c t1.cur (c.i1 t.hp k) (c.i2 t.hp k) k with
    | needCuckoo => exact ⟨s.inv, s.keeps, hr.of_same s.same⟩
    | pos p =>
      rw [htry] at ts
      exact finish_sec c t t1 m k v ca me fn p s hr ts

theorem insertLastSec_sec (c : Cfg κ) (hpS rcS : Nat) (k : κ) (v : ν) (ca me : Bool) (fn : Ctx → ν → FnOut ν)
    (fr : PathRec) (to : Option PathRec) :
    SecOf c (.uprase k v ca me fn) (insertLastSec c hpS rcS k v ca me fn fr to) :=
  .of_keeps fun t m h hr => by
    obtain ⟨s, u⟩ := lockStripes_step c (lastBuckets c hpS k to) t h (by cases to <;> exact Nat.le_of_ble_eq_true rfl)
    obtain ⟨m1, m2, m3⟩ := lastBuckets_mem c hpS k to
    rw [insertLastSec_eq, lockSec_eq_lockL]
    dsimp only
    generalize t.lockL c (lockStripes c (lastBuckets c hpS k to)) = t1 at *
    split
    · exact ⟨s.inv, s.keeps, hr.of_same s.same⟩
    · rename_i hg
      obtain ⟨hv, hb, hs⟩ := lastGuard_iff.mp hg
      obtain ⟨_, rfl⟩ := valid_iff.mp hv
      split
      · exact ⟨s.inv, s.keeps, hr.of_same s.same⟩
      · rename_i t2 hmv
        obtain ⟨s2, hfree⟩ := lastMove_step c t1 t2 fr to s.inv (fun p hp => u _ (m3 p hp)) hmv
        exact finish_sec c t t2 m k v ca me fn _ (s.trans s2) hr (recheckPos_ok c t2 k fr.bucket fr.slot s2.inv
          s2.keeps.hp (s2.keeps.mono _ (u _ m1)) (s2.keeps.mono _ (u _ m2)) hb hs hfree)

theorem doubleSec_sec (c : Cfg κ) (k : κ) (v : ν) (ca me : Bool) (fn : Ctx → ν → FnOut ν) (fuel curHp : Nat) :
    SecOf c (.uprase k v ca me fn) (doubleSec c fuel curHp) :=
  .of_resized fun t h => by
    have p := fastDouble_post c false true fuel t curHp h (fun e => by cases e)
    rcases hd : fastDouble c false true fuel t curHp with ⟨t', a | e⟩ <;> rw [hd] at p
    · rw [doubleSec_ok c fuel curHp t t' a hd]
      exact ⟨p.toResized, .inl rfl⟩
    · rw [doubleSec_err c fuel curHp t t' e hd]
      exact ⟨p.toResized, .inr ⟨_, rfl, fun _ => .inl ⟨e, p.res.1, rfl, rfl⟩⟩⟩

theorem rehashSec_sec (c : Cfg κ) (n : Nat) : SecOf c (Call.rehash n : Call κ ν) (rehashSec c n) :=
  .of_post (fun _ => ⟨rfl, rfl⟩) fun t => rehash_post c false t n

theorem reserveSec_sec (c : Cfg κ) (n : Nat) : SecOf c (Call.reserve n : Call κ ν) (reserveSec c n) :=
  .of_post (fun _ => ⟨rfl, rfl⟩) fun t => rehash_post c false t (Spec.reserveCalc c.S n)

/-- the rebuild under all locks is a legitimate final section of `rehash` and of `reserve` for ANY target hashpower and any
table — in particular when the unlocked pre-check of the public member saw an older hashpower -/
theorem expandSec_sec_rehash (c : Cfg κ) (req n : Nat) : SecOf c (Call.rehash req : Call κ ν) (expandSec c n) :=
  .of_post (fun _ => ⟨rfl, rfl⟩) fun t => expandSimple_post c false false (c.fuel t.cur.cells.size) t n

theorem expandSec_sec_reserve (c : Cfg κ) (req n : Nat) : SecOf c (Call.reserve req : Call κ ν) (expandSec c n) :=
  .of_post (fun _ => ⟨rfl, rfl⟩) fun t => expandSimple_post c false false (c.fuel t.cur.cells.size) t n

/-- when the request differs from the current hashpower the whole member is that section -/
theorem rehashSec_eq_expandSec (c : Cfg κ) (n : Nat) (t : Table κ ν) (hne : n ≠ t.hp) :
    rehashSec c n t = expandSec c n t := by
  unfold rehashSec expandSec Table.rehash
  rw [if_neg hne]

theorem clearSec_sec (c : Cfg κ) : SecOf c (Call.clear : Call κ ν) (clearSec c) := by
  intro t m h hr
  obtain ⟨a1, a2, _⟩ := C02.clear_refines c t m h hr
  exact ⟨a1, Nat.le_refl t.rc, fun _ => rfl, [], ⟨rfl, rfl⟩, a2⟩

/-- one scheduled section, tagged with the call it belongs to -/
structure Ev (c : Cfg κ) (ν : Type) where
  call : Call κ ν
  f : Section κ ν
  ok : SecOf c call f

/-- the abstract map run through the final sections of a schedule, in schedule order -/
def linRun (m : AMap κ ν) : List (Call κ ν) → List (Option (Resp ν)) → AMap κ ν → Prop
  | [], [], m' => m' = m
  | _ :: cs, none :: rs, m' => linRun m cs rs m'
  | cl :: cs, some r :: rs, m' => ∃ m1, specOf m cl r m1 ∧ linRun m1 cs rs m'
  | _, _, _ => False

theorem conc_run (c : Cfg κ) (evs : List (Ev c ν)) (t : Table κ ν) (m : AMap κ ν) (h : Inv c t) (hr : Rel c t m) :
    ∃ m', linRun m (evs.map (·.call)) (exec t (evs.map (·.f))).2 m' ∧
      Inv c (exec t (evs.map (·.f))).1 ∧ Rel c (exec t (evs.map (·.f))).1 m' ∧ RcGuard t (exec t (evs.map (·.f))).1 := by
  induction evs generalizing t m with
  | nil => exact ⟨m, rfl, h, hr, .refl t⟩
  | cons ev rest ih =>
    obtain ⟨m1, i, r, g, o⟩ := ev.ok.step h hr
    obtain ⟨m', a, b, d, g'⟩ := ih (ev.f t).1 m1 i r
    refine ⟨m', ?_, b, d, g.trans g'⟩
    show linRun m (ev.call :: _) ((ev.f t).2 :: _) m'
    rcases o with ⟨e, rfl⟩ | ⟨x, e, s⟩ <;> rw [e]
    · exact a
    · exact ⟨m1, s, a⟩

/-- **linearizability of every interleaving** -/
theorem conc_linearizable (c : Cfg κ) (evs : List (Ev c ν)) (t : Table κ ν) (m : AMap κ ν) (h : Inv c t) (hr : Rel c t m) :
    ∃ m', linRun m (evs.map (·.call)) (exec t (evs.map (·.f))).2 m' ∧
      Inv c (exec t (evs.map (·.f))).1 ∧ Rel c (exec t (evs.map (·.f))).1 m' :=
  have ⟨m', a, b, d, _⟩ := conc_run c evs t m h hr
  ⟨m', a, b, d⟩

/-- in particular no key is ever stored twice and every stored pair is a pair of the linearized map, at every point
of every schedule (every prefix of a schedule is a schedule) -/
theorem never_stored_twice (c : Cfg κ) (evs : List (Ev c ν)) (t : Table κ ν) (m : AMap κ ν) (h : Inv c t) (hr : Rel c t m)
    (p p' : Loc) (sl sl' : Slot κ ν)
    (h1 : (exec t (evs.map (·.f))).1.at c p = some sl) (h2 : (exec t (evs.map (·.f))).1.at c p' = some sl')
    (hk : sl.key = sl'.key) : p = p' :=
  have ⟨_, _, hi, _⟩ := conc_run c evs t m h hr
  hi.uniq p p' sl sl' h1 h2 hk

/-- the resize counter guards the hashpower along every schedule: if the counter after the schedule equals the counter
before it, so does the hashpower (hence re-validating the counter alone suffices) -/
theorem rc_check_implies_hp_check (c : Cfg κ) (evs : List (Ev c ν)) (t : Table κ ν) (m : AMap κ ν) (h : Inv c t) (hr : Rel c t m)
    (hrc : (exec t (evs.map (·.f))).1.rc = t.rc) : (exec t (evs.map (·.f))).1.hp = t.hp :=
  have ⟨_, _, _, _, g⟩ := conc_run c evs t m h hr
  g.rc_hp hrc

/-- the sequential insertion is one particular schedule: its first section is `insertTrySec` -/
theorem insertTry_is_first_section (c : Cfg κ) (t : Table κ ν) (k : κ) (v : ν) (ca me : Bool) (fn : Ctx → ν → FnOut ν)
    (p : InsPos) (hp : tryInsert c (t.lockTwo c (c.i1 t.hp k) (c.i2 t.hp k)).cur (c.i1 t.hp k) (c.i2 t.hp k) k = .pos p) :
    (insertTrySec c k v ca me fn t).1 = (finishInsert c (t.lockTwo c (c.i1 t.hp k) (c.i2 t.hp k)) k v ca me fn p).1 :=
  congrArg Prod.fst (insertTrySec_pos c k v ca me fn hp)

end Cuckoo.Props.C01Conc
