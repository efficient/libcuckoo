import Cuckoo.Model.Sched
import Cuckoo.Proofs.Sched.Insert
/-!
# C01 (link between the two models) — a sequential operation is one particular schedule of critical sections

`Model/Core … Ops` is the sequential replica that the differential harness (K2) compares with the C++ table cell by
cell; `Model/Conc` cuts the concurrent operations into atomic critical sections and `Props/C01Conc` proves every
interleaving of such sections linearizable.  Here the two developments are tied together: for every operation the
sequential replica **is** the run (`Conc.exec`) of a list of sections of `Model/Conc`, with the same final table and
the same answer — so the sections of the concurrent model are exactly the pieces of the K2-validated replica.

* `fnOp_is_lookupSec`, `rehash_is_rehashSec`, `reserve_is_reserveSec`, `clear_is_clearSec`: the one-section operations.
* `uprase_is_schedule`: `Table.uprase c false` (insert / insert_or_assign / upsert / uprase_fn) is the run of
  `Sched.upraseSched`, the list computed by mirroring the recursion of the sequential code:
  `insertTrySec`; per attempt of `run_cuckoo` one `lockSec [b]` per bucket dequeued by the BFS, one `lockSec [b]` per
  record read by `cuckoopath_search`, a `hopSec` per hop but the last and an `insertLastSec` for the last hop (which
  in the concurrent model also carries the duplicate re-check, `add_to_bucket` and the functor); after a failed hop the
  next attempt; if the BFS finds nothing `doubleSec`, and the whole insertion again on the grown table.
  Every response but the last is `none`; the last one is the answer of `uprase` (`.bool r.res r.calls`; for a refused
  or failed expansion `r.calls = []`, which is how `doubleSec` reports it).
  The statement holds for **every** table (no invariant), for every run in which the model's fuel does not run out
  (`hne`; the `.fuel` outcomes of the replica have no counterpart in the concurrent model).
  What makes the two formulations agree (the substance of the proof, `Proofs/Sched/`): lazy migration and hops change
  neither hashpower nor resize counter, so the snapshot `(t.hp, t.rc)` stays `valid`; the paths `buildPath` decodes from
  a `slotSearch` result start in `i1` or `i2`, have slots `< S` and consecutive buckets that are alternates under the
  recorded hashes, so the additional checks of `hopSec` / `insertLastSec` pass; the tail of `uprase` is `finishInsert`.
* `slotSearch_is_lockSecs`, `buildPath_is_lockSecs`, `pathMove_is_hops`: the pieces of one attempt.
* `uprase_no_displacement`: without displacement the schedule is the single section `insertTrySec`.
* `seq_uprase_linearizable_instance`: `C01Conc.conc_linearizable` instantiated with this schedule re-derives that the
  sequential operation refines the abstract map (the two developments meet).
* two concrete schedules evaluated by the kernel.
-/
namespace Cuckoo.Props.C01Sched
open Cuckoo Cuckoo.Model Cuckoo.Model.Conc Cuckoo.Model.Sched Cuckoo.Model.SchedA Cuckoo.Props.C01Conc Cuckoo.Spec
variable {κ ν : Type} [DecidableEq κ]

/-- `find_fn` / `update_fn` / `erase_fn` -/
theorem fnOp_is_lookupSec (c : Cfg κ) (ce : Bool) (k : κ) (fn : ν → FnOut ν) (t : Table κ ν) :
    lookupSec c ce k fn t =
      ((t.fnOp c ce k fn).1, some (.bool (t.fnOp c ce k fn).2.res (t.fnOp c ce k fn).2.calls)) := rfl

theorem rehash_is_rehashSec (c : Cfg κ) (n : Nat) (t : Table κ ν) :
    rehashSec c n t = ((t.rehash c false n).1, some .unit) := rfl

theorem reserve_is_reserveSec (c : Cfg κ) (n : Nat) (t : Table κ ν) :
    reserveSec c n t = ((t.reserve c false n).1, some .unit) := rfl

omit [DecidableEq κ] in
theorem clear_is_clearSec (c : Cfg κ) (t : Table κ ν) : clearSec c t = (t.clear c, some .unit) := rfl

theorem fnOp_is_schedule (c : Cfg κ) (ce : Bool) (k : κ) (fn : ν → FnOut ν) (t : Table κ ν) :
    exec t [lookupSec c ce k fn] =
      ((t.fnOp c ce k fn).1, [some (.bool (t.fnOp c ce k fn).2.res (t.fnOp c ce k fn).2.calls)]) := rfl

theorem rehash_is_schedule (c : Cfg κ) (n : Nat) (t : Table κ ν) :
    exec t [rehashSec c n] = ((t.rehash c false n).1, [some .unit]) := rfl

theorem reserve_is_schedule (c : Cfg κ) (n : Nat) (t : Table κ ν) :
    exec t [reserveSec c n] = ((t.reserve c false n).1, [some .unit]) := rfl

omit [DecidableEq κ] in
theorem clear_is_schedule (c : Cfg κ) (t : Table κ ν) : exec t [clearSec c] = (t.clear c, [some .unit]) := rfl

omit [DecidableEq κ] in
/-- `slot_search` is a run of `lock_one` sections, one per dequeued bucket, all internal -/
theorem slotSearch_is_lockSecs (c : Cfg κ) (hp : Nat) (t : Table κ ν) (i1 i2 : Nat) :
    exec t (slotSearchSched c hp (maxCuckooCount c.S + 1) t #[⟨i1, 0, 0⟩, ⟨i2, 1, 0⟩] 0) =
      ((slotSearch c false hp t i1 i2).1,
       List.replicate (slotSearchSched c hp (maxCuckooCount c.S + 1) t #[⟨i1, 0, 0⟩, ⟨i2, 1, 0⟩] 0).length none) ∧
    ∀ f ∈ slotSearchSched c hp (maxCuckooCount c.S + 1) t #[⟨i1, 0, 0⟩, ⟨i2, 1, 0⟩] 0, ∃ b, f = lockSec c [b] :=
  ⟨(slotSearch_run c hp t i1 i2).quiet.eq, (slotSearch_run c hp t i1 i2).locks⟩

/-- `cuckoopath_search` is a run of `lock_one` sections, one per record read, all internal -/
theorem buildPath_is_lockSecs (c : Cfg κ) (hp : Nat) (t : Table κ ν) (i1 i2 : Nat) (x : BSlot) :
    exec t (buildPathSched c hp t i1 i2 x) =
      ((buildPath c false hp t i1 i2 x).1, List.replicate (buildPathSched c hp t i1 i2 x).length none) ∧
    ∀ f ∈ buildPathSched c hp t i1 i2 x, ∃ b, f = lockSec c [b] :=
  ⟨(buildPath_run c hp t i1 i2 x).quiet.eq, (buildPath_run c hp t i1 i2 x).locks⟩

/-- `cuckoopath_move` on a well-shaped path, with a current snapshot `(hp, rc)`: if a hop fails the hops are a silent
run ending in the table `pathMove` returns; if all succeed, the run's last section (`insertLastSec`) also does the
re-check, `add_to_bucket` and the functor (`tailOf`), and answers -/
theorem pathMove_is_hops (c : Cfg κ) (k : κ) (v : ν) (ca me : Bool) (fn : Ctx → ν → FnOut ν) (t : Table κ ν)
    (path : List PathRec) (hok : PathOK c t.hp path)
    (hhead : ∀ p0, path.head? = some p0 → p0.bucket = c.i1 t.hp k ∨ p0.bucket = c.i2 t.hp k) :
    ((pathMove c false t (c.i1 t.hp k) (c.i2 t.hp k) path).2 = false →
      exec t (pathMoveSched c k v ca me fn t.hp t.rc t path) =
        ((pathMove c false t (c.i1 t.hp k) (c.i2 t.hp k) path).1,
         List.replicate (pathMoveSched c k v ca me fn t.hp t.rc t path).length none)) ∧
    (∀ p0, path.head? = some p0 → (pathMove c false t (c.i1 t.hp k) (c.i2 t.hp k) path).2 = true →
      exec t (pathMoveSched c k v ca me fn t.hp t.rc t path) =
        ((tailOf c k v ca me fn t.hp (pathMove c false t (c.i1 t.hp k) (c.i2 t.hp k) path).1 p0).1,
         List.replicate ((pathMoveSched c k v ca me fn t.hp t.rc t path).length - 1) none ++
           [some (tailOf c k v ca me fn t.hp (pathMove c false t (c.i1 t.hp k) (c.i2 t.hp k) path).1 p0).2])) := by
  have h := pathMove_sched c k v ca me fn t.hp t.rc t path ⟨rfl, rfl⟩ hok hhead
  generalize pathMove c false t (c.i1 t.hp k) (c.i2 t.hp k) path = r at h ⊢
  obtain ⟨t', _ | _⟩ := r
  · exact ⟨fun _ => h.2.eq, fun _ _ e => nomatch e⟩
  · exact ⟨nofun, fun p0 e0 _ => (h p0 e0).eq⟩

/-- the paths handed to `cuckoopath_move` are well shaped: for a `slot_search` result `x`, the decoded path starts in
`i1` or `i2`, its slots are `< S` and consecutive buckets are alternates under the recorded hashes (every table) -/
theorem buildPath_path_ok (c : Cfg κ) (hp : Nat) (t t1 : Table κ ν) (i1 i2 : Nat) (x : BSlot)
    (hx : (slotSearch c false hp t i1 i2).2 = some x) :
    PathOK c hp (buildPath c false hp t1 i1 i2 x).2 ∧
    ∀ p0, (buildPath c false hp t1 i1 i2 x).2.head? = some p0 → p0.bucket = i1 ∨ p0.bucket = i2 :=
  buildPath_path c false hp t1 i1 i2 x (slotSearch_some_pos c false hp t i1 i2 x hx)

/-- `run_cuckoo` with a current snapshot `(hp, rc)`, followed by what `cuckoo_insert_loop` and `uprase_fn` do with its
outcome (`afterCuckoo`, `fin`): the attempts (lock_one sections, hops), closed either by `insertLastSec` or by `doubleSec`
and — if the expansion succeeded — the schedule `restart` of the insertion on the grown table -/
theorem runCuckoo_is_schedule (c : Cfg κ) (k : κ) (v : ν) (ca me : Bool) (fn : Ctx → ν → FnOut ν) (hp rc dfuel : Nat)
    (restart : Table κ ν → List (Section κ ν))
    (hrestart : ∀ t2, (insertLoop c false dfuel t2 k).2 ≠ .err .fuel →
      exec t2 (restart t2) =
        ((fin c k v ca me fn (insertLoop c false dfuel t2 k)).1,
         List.replicate ((restart t2).length - 1) none ++ [some (fin c k v ca me fn (insertLoop c false dfuel t2 k)).2]))
    (fuel : Nat) (t : Table κ ν) (hhp : t.hp = hp) (hrc : t.rc = rc)
    (hne : (afterCuckoo c k dfuel hp (runCuckoo.go c false (c.i1 hp k) (c.i2 hp k) hp fuel t)).2 ≠ .err .fuel) :
    exec t (cuckooSched c k v ca me fn hp rc dfuel restart fuel t) =
      ((fin c k v ca me fn (afterCuckoo c k dfuel hp (runCuckoo.go c false (c.i1 hp k) (c.i2 hp k) hp fuel t))).1,
       List.replicate ((cuckooSched c k v ca me fn hp rc dfuel restart fuel t).length - 1) none ++
         [some (fin c k v ca me fn (afterCuckoo c k dfuel hp (runCuckoo.go c false (c.i1 hp k) (c.i2 hp k) hp fuel t))).2]) :=
  (cuckoo_sched c k v ca me fn hp rc dfuel restart (fun t2 h2 => ⟨_, hrestart t2 h2⟩) fuel t ⟨hhp, hrc⟩ hne).eq

/-- the insertion loop with the tail of `uprase_fn` (`fin`), for every fuel -/
theorem insertLoop_is_schedule (c : Cfg κ) (k : κ) (v : ν) (ca me : Bool) (fn : Ctx → ν → FnOut ν) (fuel : Nat)
    (t : Table κ ν) (hne : (insertLoop c false fuel t k).2 ≠ .err .fuel) :
    exec t (insSched c k v ca me fn fuel t) =
      ((fin c k v ca me fn (insertLoop c false fuel t k)).1,
       List.replicate ((insSched c k v ca me fn fuel t).length - 1) none ++
         [some (fin c k v ca me fn (insertLoop c false fuel t k)).2]) :=
  (ins_sched c k v ca me fn fuel t hne).eq

/-- **the sequential `uprase_fn` is the run of its schedule**: same final table; every response but the last is `none`;
the last is the operation's answer -/
theorem uprase_is_schedule (c : Cfg κ) (t : Table κ ν) (k : κ) (v : ν) (ca me : Bool) (fn : Ctx → ν → FnOut ν)
    (hne : (t.uprase c false k v ca me fn).2.1.res ≠ .err .fuel) :
    exec t (upraseSched c t k v ca me fn) =
      ((t.uprase c false k v ca me fn).1,
       List.replicate ((upraseSched c t k v ca me fn).length - 1) none ++
         [some (.bool (t.uprase c false k v ca me fn).2.1.res (t.uprase c false k v ca me fn).2.1.calls)]) := by
  obtain ⟨e1, e2, _⟩ := uprase_eq_fin c false t k v ca me fn
  rw [e1, e2]
  exact insertLoop_is_schedule c k v ca me fn _ t (uprase_res_fuel c k v ca me fn t hne)

theorem uprase_schedule_table (c : Cfg κ) (t : Table κ ν) (k : κ) (v : ν) (ca me : Bool) (fn : Ctx → ν → FnOut ν)
    (hne : (t.uprase c false k v ca me fn).2.1.res ≠ .err .fuel) :
    (exec t (upraseSched c t k v ca me fn)).1 = (t.uprase c false k v ca me fn).1 := by
  rw [uprase_is_schedule c t k v ca me fn hne]

theorem uprase_schedule_last (c : Cfg κ) (t : Table κ ν) (k : κ) (v : ν) (ca me : Bool) (fn : Ctx → ν → FnOut ν)
    (hne : (t.uprase c false k v ca me fn).2.1.res ≠ .err .fuel) :
    (exec t (upraseSched c t k v ca me fn)).2.getLast? =
      some (some (.bool (t.uprase c false k v ca me fn).2.1.res (t.uprase c false k v ca me fn).2.1.calls)) := by
  rw [uprase_is_schedule c t k v ca me fn hne]
  simp only [List.getLast?_append, List.getLast?_singleton, Option.some_or]

theorem uprase_schedule_internal (c : Cfg κ) (t : Table κ ν) (k : κ) (v : ν) (ca me : Bool) (fn : Ctx → ν → FnOut ν)
    (hne : (t.uprase c false k v ca me fn).2.1.res ≠ .err .fuel) :
    ∀ r ∈ (exec t (upraseSched c t k v ca me fn)).2.dropLast, r = none := by
  rw [uprase_is_schedule c t k v ca me fn hne]
  simp only [List.dropLast_concat]
  intro r hr
  exact (List.mem_replicate.mp hr).2

/-- an expansion refused or failed ends the call with the exception and no functor call: what `doubleSec` reports -/
theorem uprase_schedule_last_err (c : Cfg κ) (t : Table κ ν) (k : κ) (v : ν) (ca me : Bool) (fn : Ctx → ν → FnOut ν)
    (e : Err) (he : (insertLoop c false (c.fuel t.cur.cells.size) t k).2 = .err e) (hne : e ≠ .fuel) :
    (exec t (upraseSched c t k v ca me fn)).2.getLast? = some (some (.bool (.err e) [])) := by
  have hu := uprase_err c false t k v ca me fn e he
  have hne2 : (t.uprase c false k v ca me fn).2.1.res ≠ .err .fuel := by
    rw [hu]; intro h; cases h; exact hne rfl
  rw [uprase_schedule_last c t k v ca me fn hne2, hu]

/-- without displacement (the first two bucket scans find the key or a free slot) the schedule is the single section
`insertTrySec`, which yields the final table and the answer -/
theorem uprase_no_displacement (c : Cfg κ) (t : Table κ ν) (k : κ) (v : ν) (ca me : Bool) (fn : Ctx → ν → FnOut ν)
    (p : InsPos)
    (hp : tryInsert c (t.lockTwo c (c.i1 t.hp k) (c.i2 t.hp k)).cur (c.i1 t.hp k) (c.i2 t.hp k) k = .pos p) :
    upraseSched c t k v ca me fn = [insertTrySec c k v ca me fn] ∧
    insertTrySec c k v ca me fn t =
      ((t.uprase c false k v ca me fn).1,
       some (.bool (t.uprase c false k v ca me fn).2.1.res (t.uprase c false k v ca me fn).2.1.calls)) := by
  -- `Cfg.fuel` (Model/Resize.lean: a function of `hpLimit` alone) as a successor, the shape `insertLoop_succ` needs
  have hf : c.fuel t.cur.cells.size = (4 * (c.hpLimit + 2) + 7) + 1 := rfl
  obtain ⟨e1, e2, _⟩ := uprase_eq_fin c false t k v ca me fn
  constructor
  · unfold upraseSched
    rw [hf]
    simp only [insSched, hp]
  · rw [e1, e2, hf, insertLoop_succ, insertTrySec_pos c k v ca me fn hp]
    simp only [hp]
    rfl

/-- `conc_linearizable` instantiated with the schedule of the sequential operation: the sequential `uprase_fn` preserves
the invariant and transforms the abstract map and answers as the specification of the call says — the statement of
`C02.uprase_refines` (normal mode), obtained here through the concurrent development -/
theorem seq_uprase_linearizable_instance (c : Cfg κ) (t : Table κ ν) (m : AMap κ ν) (k : κ) (v : ν) (ca me : Bool)
    (fn : Ctx → ν → FnOut ν) (h : Inv c t) (hr : Rel c t m)
    (hne : (t.uprase c false k v ca me fn).2.1.res ≠ .err .fuel) :
    ∃ m', specOf m (.uprase k v ca me fn)
        (.bool (t.uprase c false k v ca me fn).2.1.res (t.uprase c false k v ca me fn).2.1.calls) m' ∧
      Inv c (t.uprase c false k v ca me fn).1 ∧ Rel c (t.uprase c false k v ca me fn).1 m' := by
  obtain ⟨e1, e2, _⟩ := uprase_eq_fin c false t k v ca me fn
  rw [e1, e2]
  exact done_refines (insSched_all c k v ca me fn _ t)
    (ins_sched c k v ca me fn _ t (uprase_res_fuel c k v ca me fn t hne)) h hr

/-! ### two concrete schedules, evaluated by the kernel -/

namespace Ex
/-- one slot per bucket, four stripes, an arbitrary hash -/
def cE : Cfg Nat := ⟨1, 4, fun k => k * 37 + 5, false, true, 6⟩
def fnE : Ctx → Nat → FnOut Nat := fun _ v => .ret v false
def ins (t : Table Nat Nat) (k : Nat) : Table Nat Nat := (t.uprase cE false k (k + 100) false false fnE).1
def keysOf (t : Table Nat Nat) : List (Option Nat) := t.cur.cells.toList.map (·.map (·.key))
def shape (r : Option (Resp Nat)) : Option (Option Bool × Option Err × Nat) :=
  r.map fun
    | .bool (.ok b) calls => (some b, none, calls.length)
    | .bool (.err e) calls => (none, some e, calls.length)
    | .unit => (none, none, 0)

/-- eight buckets, six of them occupied -/
def tE : Table Nat Nat := [0, 3, 6, 9, 12, 15].foldl ins (Table.init cE 8)
/-- four buckets, all occupied, `maximum_hashpower(2)` -/
def tF : Table Nat Nat := { ([0, 1, 2, 3].foldl ins (Table.init cE 4)) with mhp := 2 }

example : keysOf tE = [some 15, some 12, some 9, some 6, some 3, some 0, none, none] := by decide +kernel

/-- the schedule of `insert(59)` on `tE`, evaluated once -/
theorem ex59 : (upraseSched cE tE 59 159 false false fnE).length = 12 ∧
    keysOf (exec tE (upraseSched cE tE 59 159 false false fnE)).1 =
      [some 15, some 12, some 9, some 0, some 3, some 59, none, some 6] ∧
    keysOf (tE.uprase cE false 59 159 false false fnE).1 =
      [some 15, some 12, some 9, some 0, some 3, some 59, none, some 6] ∧
    (exec tE (upraseSched cE tE 59 159 false false fnE)).2.map shape =
      List.replicate 11 none ++ [some (some true, none, 0)] := by decide +kernel

/-- inserting 59 displaces 0 and 6 (a path of depth 2): twelve sections — `insertTrySec`, lock_one sections of the BFS
and of the path decoding, one `hopSec`, and `insertLastSec` which answers `true` -/
example : (upraseSched cE tE 59 159 false false fnE).length = 12 := ex59.1
example : keysOf (exec tE (upraseSched cE tE 59 159 false false fnE)).1 =
    [some 15, some 12, some 9, some 0, some 3, some 59, none, some 6] := ex59.2.1
example : keysOf (tE.uprase cE false 59 159 false false fnE).1 =
    [some 15, some 12, some 9, some 0, some 3, some 59, none, some 6] := ex59.2.2.1
example : (exec tE (upraseSched cE tE 59 159 false false fnE)).2.map shape =
    List.replicate 11 none ++ [some (some true, none, 0)] := ex59.2.2.2

/-- the schedule of `insert(4)` on `tF`, evaluated once -/
theorem exF : (exec tF (upraseSched cE tF 4 104 false false fnE)).2.map shape =
      List.replicate 11 none ++ [some (none, some .maxHpExceeded, 0)] ∧
    keysOf (exec tF (upraseSched cE tF 4 104 false false fnE)).1 = [some 3, some 0, some 1, some 2] ∧
    keysOf (tF.uprase cE false 4 104 false false fnE).1 = [some 3, some 0, some 1, some 2] := by decide +kernel

/-- inserting into the full table whose hashpower may not grow: the BFS finds nothing, the last section is `doubleSec`,
which answers with `maximum_hashpower_exceeded`; the table keeps its contents -/
example : (exec tF (upraseSched cE tF 4 104 false false fnE)).2.map shape =
    List.replicate 11 none ++ [some (none, some .maxHpExceeded, 0)] := exF.1
example : keysOf (exec tF (upraseSched cE tF 4 104 false false fnE)).1 = [some 3, some 0, some 1, some 2] :=
  exF.2.1
example : keysOf (tF.uprase cE false 4 104 false false fnE).1 = [some 3, some 0, some 1, some 2] := exF.2.2

end Ex

end Cuckoo.Props.C01Sched
