import Cuckoo.Model.Par
import Cuckoo.Proofs.Migrate
import Cuckoo.Proofs.Footprint.Commute
/-!
# C02 (helper threads) — the work of a batch migration / rebuild is handed out completely and without overlap

`rehash_with_workers` and the rebuild inside `cuckoo_expand_simple` run their loop body over `[0, n)` through
`parallel_exec(_noexcept)`: `max_num_worker_threads()` helper threads get equal chunks, the caller the rest.
For every range and every number of workers the chunks are consecutive, disjoint and cover the range exactly
(`splitWork_partition`); consequently running the chunks one after the other is the sequential loop
(`fold_chunks_eq`), and two different stripes migrate independently (`rehashLock_comm`), so that EVERY order in which
the helpers get through their stripes — every interleaving at the granularity of whole `rehash_lock` calls — leaves
exactly the table of the sequential loop (`migrate_any_order`, `migrate_with_workers`).  The K2 streams with
`setworkers` compare the real table's state after batch migrations with the model's sequential result.
-/
namespace Cuckoo.Props.C02Par
open Cuckoo Cuckoo.Model
variable {κ ν : Type}

theorem go_cover (per e : Nat) : ∀ (n start : Nat), start + n * per ≤ e →
    (splitWork.go per e n start).flatMap chunkIdx = List.range' start (e - start)
  | 0, start, _ => by rw [splitWork.go, List.flatMap_cons, List.flatMap_nil, List.append_nil]; rfl
  | n + 1, start, h => by
    rw [Nat.succ_mul, Nat.add_comm (n * per), ← Nat.add_assoc] at h
    have hle : start + per ≤ e := Nat.le_trans (Nat.le_add_right _ _) h
    rw [splitWork.go, List.flatMap_cons, go_cover per e n (start + per) h]
    show List.range' start (start + per - start) ++ _ = _
    rw [Nat.add_sub_cancel_left, List.range'_append_1, Nat.sub_add_eq, Nat.add_sub_cancel' (Nat.le_sub_of_add_le' hle)]

/-- every index of the range is handed to exactly one worker, in order, none twice, none dropped -/
theorem splitWork_partition (s e workers : Nat) (h : s ≤ e) :
    (splitWork s e workers).flatMap chunkIdx = List.range' s (e - s) := by
  apply go_cover
  have : workers * ((e - s) / (workers + 1)) ≤ e - s := by
    calc workers * ((e - s) / (workers + 1)) ≤ (workers + 1) * ((e - s) / (workers + 1)) :=
          Nat.mul_le_mul_right _ (Nat.le_succ _)
      _ ≤ e - s := Nat.mul_div_le _ _
  omega

theorem splitWork_length (s e workers : Nat) : (splitWork s e workers).length = workers + 1 := by
  unfold splitWork
  generalize (e - s) / (workers + 1) = per
  induction workers generalizing s with
  | zero => rfl
  | succ n ih => simp [splitWork.go, ih]

/-- folding a step function over the chunks in order is folding it over the whole range: the chunked batch migration
run on one thread is the sequential loop -/
theorem fold_chunks_eq {σ : Type} (f : σ → Nat → σ) (x : σ) (s e workers : Nat) (h : s ≤ e) :
    (splitWork s e workers).foldl (fun acc c => (chunkIdx c).foldl f acc) x = (List.range' s (e - s)).foldl f x := by
  rw [← splitWork_partition s e workers h, List.foldl_flatMap]

/-! ### helper threads may process the stripes in any order

`rehash_with_workers` runs `rehash_lock<kIsNotLazy>(i)` for the stripes of each chunk on a different thread.  Two
stripes own disjoint sets of buckets (old buckets `≡ i (mod M)` and the buckets they split into), so the calls commute,
and every schedule of the helpers — at the granularity of whole `rehash_lock` calls: any order in which each stripe
index occurs once — leaves the very same table as the sequential loop of the model.  (Interleavings *inside* two calls
touch disjoint memory; that finer granularity is an assumption, stated in the manifest.) -/

/-- two different stripes migrate independently -/
theorem rehashLock_comm (c : Cfg κ) (t : Table κ ν) (h : Inv c t) (i j : Nat) (hij : i ≠ j) :
    (t.rehashLock c i false).rehashLock c j false = (t.rehashLock c j false).rehashLock c i false :=
  rehashLock_false_comm c t h.toW i j hij

/-- every order of the stripes gives the table the sequential batch migration gives -/
theorem migrate_any_order (c : Cfg κ) (t : Table κ ν) (h : Inv c t) (order : List Nat)
    (hp : order.Perm (List.range t.locks.size)) :
    (order.foldl (fun t l => t.rehashLock c l false) t).setRem 0 = t.migrateAll c := by
  rw [foldl_rehashLock_perm c t h.toW hp, List.range_eq_range', ← migrateAll_go_eq_foldl]
  rfl

/-- in particular every interleaving of the chunks handed to the helper threads -/
theorem migrate_with_workers (c : Cfg κ) (t : Table κ ν) (h : Inv c t) (workers : Nat) (order : List Nat)
    (hp : order.Perm ((splitWork 0 t.locks.size workers).flatMap chunkIdx)) :
    (order.foldl (fun t l => t.rehashLock c l false) t).setRem 0 = t.migrateAll c := by
  apply migrate_any_order c t h order
  rw [splitWork_partition 0 t.locks.size workers (Nat.zero_le _), Nat.sub_zero] at hp
  rw [List.range_eq_range']
  exact hp

example : splitWork 0 10 3 = [(0, 2), (2, 4), (4, 6), (6, 10)] := by decide
example : splitWork 3 3 2 = [(3, 3), (3, 3), (3, 3)] := by decide

end Cuckoo.Props.C02Par
