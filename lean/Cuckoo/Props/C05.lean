import Cuckoo.Props.C02
import Cuckoo.Proofs.Life.Ledger
/-!
# C05 — size() and the derived statistics are exact whenever the table is quiescent

Sequentially every state between two calls is quiescent.  `Rel c t m` contains `sumCnt t = |m|`, and every
operation re-establishes `Rel` (C02), so `size()` equals the number of stored pairs after any history — across
displacement between stripes, doubling with deferred migration, growth of the lock array, shrinking, clear and
stream extraction (C12).
-/
namespace Cuckoo.Props.C05
open Cuckoo Cuckoo.Model Cuckoo.Spec
variable {κ ν : Type}

/-- `size()` is the number of key-value pairs -/
theorem size_eq_card (c : Cfg κ) (t : Table κ ν) (m : AMap κ ν) (hr : Rel c t m) : t.size = m.length :=
  hr.size

/-- `empty()` iff there is no pair -/
theorem empty_iff (c : Cfg κ) (t : Table κ ν) (m : AMap κ ν) (hr : Rel c t m) : (t.size = 0) ↔ m = [] := by
  rw [size_eq_card c t m hr]
  exact List.length_eq_zero_iff

/-- `capacity()` = `bucket_count() * slot_per_bucket()` with `bucket_count() = 2^hashpower()`, and the bucket array
really has that many cells -/
theorem capacity_eq (c : Cfg κ) (t : Table κ ν) (h : Inv c t) :
    t.capacity c = 2 ^ t.hp * c.S ∧ t.cur.cells.size = t.capacity c :=
  ⟨rfl, h.cur_wf.size⟩

/-- `load_factor()` is `size()/capacity()` computed in double precision -/
theorem load_factor_eq (c : Cfg κ) (t : Table κ ν) :
    t.lfBelow c = decide (lfOf t.size (t.capacity c) < t.mlf) := by
  rfl

/-- there are never more elements than slots -/
theorem size_le_capacity [DecidableEq κ] (c : Cfg κ) (t : Table κ ν) (m : AMap κ ν) (h : Inv c t) (hr : Rel c t m)
    (hl : AllMig t) : t.size ≤ t.capacity c := by
  -- the pairs are as many as the occupied cells: with everything migrated, those of the current array
  rw [size_eq_card c t m hr, ← (capacity_eq c t h).2, rel_length h hr, liveOld_of_allMig c t hl, Nat.add_zero,
    Store.count_eq_countP]
  exact Array.countP_le_size

/-- growth of the lock array keeps the sum of the counters -/
theorem counters_move_with_growth (c : Cfg κ) (t : Table κ ν) (n : Nat) :
    (t.maybeResizeLocks c n).sumCnt = t.sumCnt := (maybeResizeLocks_spec c t n).sumCnt

/-- a displacement hop changes no counter -/
theorem displacement_keeps_sum (c : Cfg κ) (t t' : Table κ ν) (fr to : PathRec) (h : hop c t fr to = some t') :
    t'.sumCnt = t.sumCnt := by
  obtain ⟨_, _, _, _, rfl⟩ := hop_shape c t t' fr to h
  rfl

/-- after any sequence of operations, `size()` is the number of pairs of the abstract map the run ends with -/
theorem size_exact_after_any_run [DecidableEq κ] (c : Cfg κ) (ops : List (C02.Op κ ν)) (s : C02.MT κ ν) (m : AMap κ ν)
    (hg : C02.Good c s m) :
    ∃ m', C02.specRun s.locked m ops (C02.run c s ops).2 m' ∧ (C02.run c s ops).1.t.size = m'.length := by
  obtain ⟨m', h1, h2⟩ := C02.seq_refines c ops s m hg
  exact ⟨m', h1, size_eq_card c _ m' h2.2.1⟩

end Cuckoo.Props.C05
