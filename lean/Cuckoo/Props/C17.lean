import Cuckoo.Props.C07
/-!
# C17 — functors are invoked exactly when documented, with the right context

Corollaries of `fnOp_sim` / `C02.uprase_refines`, whose `calls` component records every functor
invocation (context received, value seen).
-/
namespace Cuckoo.Props.C17
open Cuckoo Cuckoo.Model Cuckoo.Spec
variable {κ ν : Type} [DecidableEq κ]

/-- find_fn / update_fn / erase_fn: invoked exactly once with the stored value if the key is present, never otherwise;
the boolean result reports "found" -/
theorem fn_called_iff_present (c : Cfg κ) (canErase : Bool) (t : Table κ ν) (m : AMap κ ν) (k : κ) (fn : ν → FnOut ν)
    (h : Inv c t) (hr : Rel c t m) :
    (t.fnOp c canErase k fn).2.calls = (match m.lookup k with | some v => [⟨none, v⟩] | none => []) ∧
    (∀ b, (t.fnOp c canErase k fn).2.res = .ok b → b = (m.lookup k).isSome) := by
  obtain ⟨_, r1, r2⟩ := fnOp_sim c canErase t m k fn h hr
  rw [r1, r2]
  cases hk : m.lookup k with
  | none => rw [C02.fnOpSpec_none hk]; exact ⟨rfl, fun b hb => by cases hb; rfl⟩
  | some v =>
    rw [C02.fnOpSpec_some hk]
    refine ⟨C02.tailSpec_calls .., fun b hb => ?_⟩
    rcases C02.tailSpec_res m k v none canErase fn true with x | x <;> rw [x] at hb <;> cases hb
    rfl

/-- erase_fn erases iff the functor returns true; update_fn never erases -/
theorem erased_iff_true (c : Cfg κ) (canErase : Bool) (t : Table κ ν) (m : AMap κ ν) (k : κ) (fn : ν → FnOut ν) (v v' : ν)
    (er : Bool) (h : Inv c t) (hr : Rel c t m) (hk : m.lookup k = some v) (hf : fn v = .ret v' er) :
    Rel c (t.fnOp c canErase k fn).1 (if canErase && er then m.erase k else m.set k v') := by
  have hrel := (fnOp_sim c canErase t m k fn h hr).1.rel
  rw [C02.fnOpSpec_some hk, C02.tailSpec, hf] at hrel
  exact hrel

/-- uprase_fn / upsert: present key → exactly one call with ALREADY_EXISTED (context passed only to functors that take
one) and the stored value; absent key → exactly one call with NEWLY_INSERTED and the inserted value iff the functor
takes a context, no call otherwise; the boolean result reports "newly inserted" -/
theorem uprase_call_contract (c : Cfg κ) (locked : Bool) (t : Table κ ν) (m : AMap κ ν) (k : κ) (v : ν)
    (ctxAware mayErase : Bool) (fn : Ctx → ν → FnOut ν) (h : Inv c t) (hr : Rel c t m) (hl : locked = true → AllMig t)
    (hok : ∀ e, (t.uprase c locked k v ctxAware mayErase fn).2.1.res = .err e → e = .fnThrow) :
    (t.uprase c locked k v ctxAware mayErase fn).2.1.calls =
      (match m.lookup k with
       | some old => [⟨if ctxAware then some .alreadyExisted else none, old⟩]
       | none => if ctxAware then [⟨some .newlyInserted, v⟩] else []) ∧
    (∀ b, (t.uprase c locked k v ctxAware mayErase fn).2.1.res = .ok b → b = (m.lookup k).isNone) := by
  obtain ⟨_, _, ⟨e, he, hre, _⟩ | ⟨hres, hcalls, _⟩⟩ := C02.uprase_refines c locked t m k v ctxAware mayErase fn h hr hl
  · exact absurd (hok e he) hre.ne_fnThrow
  · rw [hcalls]
    refine ⟨?_, fun b hb => C02.upraseSpec_ok (hres ▸ hb)⟩
    cases hk : m.lookup k with
    | some old => rw [C02.upraseSpec_some hk, C02.tailSpec_calls]
    | none =>
      cases ctxAware with
      | false => rw [C02.upraseSpec_none hk]; rfl
      | true => rw [C02.upraseSpec_none_ctx hk, C02.tailSpec_calls]; rfl

/-- a failed expansion invokes nothing -/
theorem no_call_on_failed_insert (c : Cfg κ) (locked : Bool) (t : Table κ ν) (m : AMap κ ν) (k : κ) (v : ν)
    (ctxAware mayErase : Bool) (fn : Ctx → ν → FnOut ν) (h : Inv c t) (hr : Rel c t m) (hl : locked = true → AllMig t)
    (e : Err) (he : (t.uprase c locked k v ctxAware mayErase fn).2.1.res = .err e) (hne : e ≠ .fnThrow) :
    (t.uprase c locked k v ctxAware mayErase fn).2.1.calls = [] ∧ Rel c (t.uprase c locked k v ctxAware mayErase fn).1 m := by
  obtain ⟨_, a2, a3⟩ := C07.alloc_failure_atomic_partial c locked t m k v ctxAware mayErase fn h hr hl e he hne
  exact ⟨a3, a2⟩

/-- the wrappers are the documented abbreviations: their functors -/
def containsFn : ν → FnOut ν := fun v => .ret v false
def updateFn (x : ν) : ν → FnOut ν := fun _ => .ret x false
def eraseFn : ν → FnOut ν := fun v => .ret v true
def insertFn : Ctx → ν → FnOut ν := fun _ v => .ret v false
def assignFn (x : ν) : Ctx → ν → FnOut ν := fun _ _ => .ret x false

/-- `contains`/`find` = find_fn with a functor that changes nothing -/
theorem contains_spec (c : Cfg κ) (t : Table κ ν) (m : AMap κ ν) (k : κ) (h : Inv c t) (hr : Rel c t m) :
    (t.fnOp c false k containsFn).2.res = .ok (m.lookup k).isSome ∧ Rel c (t.fnOp c false k containsFn).1 m := by
  obtain ⟨a, r1, _⟩ := fnOp_sim c false t m k containsFn h hr
  have hrel := a.rel
  rw [r1]
  cases hk : m.lookup k with
  | none => rw [C02.fnOpSpec_none hk] at hrel ⊢; exact ⟨rfl, hrel⟩
  | some v => rw [C02.fnOpSpec_some hk] at hrel ⊢; exact ⟨rfl, AMap.set_of_lookup_some m hr.nodup k v hk ▸ hrel⟩

/-- `update(k, x)` = update_fn assigning `x` -/
theorem update_spec (c : Cfg κ) (t : Table κ ν) (m : AMap κ ν) (k : κ) (x : ν) (h : Inv c t) (hr : Rel c t m) :
    (t.fnOp c false k (updateFn x)).2.res = .ok (m.lookup k).isSome ∧ Rel c (t.fnOp c false k (updateFn x)).1 (m.set k x) := by
  obtain ⟨a, r1, _⟩ := fnOp_sim c false t m k (updateFn x) h hr
  have hrel := a.rel
  rw [r1]
  cases hk : m.lookup k with
  | none => rw [C02.fnOpSpec_none hk] at hrel ⊢; exact ⟨rfl, by rw [AMap.set_of_lookup_none m k x hk]; exact hrel⟩
  | some v => rw [C02.fnOpSpec_some hk] at hrel ⊢; exact ⟨rfl, hrel⟩

/-- `erase(k)` = erase_fn returning true -/
theorem erase_spec (c : Cfg κ) (t : Table κ ν) (m : AMap κ ν) (k : κ) (h : Inv c t) (hr : Rel c t m) :
    (t.fnOp c true k eraseFn).2.res = .ok (m.lookup k).isSome ∧ Rel c (t.fnOp c true k eraseFn).1 (m.erase k) := by
  obtain ⟨a, r1, _⟩ := fnOp_sim c true t m k eraseFn h hr
  have hrel := a.rel
  rw [r1]
  cases hk : m.lookup k with
  | none => rw [C02.fnOpSpec_none hk] at hrel ⊢; exact ⟨rfl, by rw [AMap.erase_of_lookup_none m k hk]; exact hrel⟩
  | some v => rw [C02.fnOpSpec_some hk] at hrel ⊢; exact ⟨rfl, hrel⟩

/-- `insert(k, v)` = upsert with a one-argument no-op: inserts iff absent, never touches a present value -/
theorem insert_spec (c : Cfg κ) (t : Table κ ν) (m : AMap κ ν) (k : κ) (v : ν) (h : Inv c t) (hr : Rel c t m)
    (b : Bool) (hb : (t.uprase c false k v false false insertFn).2.1.res = .ok b) :
    b = (m.lookup k).isNone ∧ Rel c (t.uprase c false k v false false insertFn).1 (if (m.lookup k).isNone then m.add k v else m) := by
  obtain ⟨e, _, hrel⟩ := uprase_ok c false t m k v false false insertFn h hr nofun b hb
  refine ⟨e, ?_⟩
  cases hk : m.lookup k with
  | some old =>
    rw [C02.upraseSpec_some hk] at hrel
    exact AMap.set_of_lookup_some m hr.nodup k old hk ▸ hrel
  | none =>
    rw [C02.upraseSpec_none hk] at hrel
    exact hrel

/-- `insert_or_assign(k, v)` = upsert with a one-argument assignment -/
theorem insert_or_assign_spec (c : Cfg κ) (t : Table κ ν) (m : AMap κ ν) (k : κ) (v : ν) (h : Inv c t) (hr : Rel c t m)
    (b : Bool) (hb : (t.uprase c false k v false false (assignFn v)).2.1.res = .ok b) :
    b = (m.lookup k).isNone ∧
    Rel c (t.uprase c false k v false false (assignFn v)).1 (if (m.lookup k).isNone then m.add k v else m.set k v) := by
  obtain ⟨e, _, hrel⟩ := uprase_ok c false t m k v false false (assignFn v) h hr nofun b hb
  refine ⟨e, ?_⟩
  cases hk : m.lookup k with
  | some old =>
    rw [C02.upraseSpec_some hk] at hrel
    exact hrel
  | none =>
    rw [C02.upraseSpec_none hk] at hrel
    exact hrel

end Cuckoo.Props.C17
