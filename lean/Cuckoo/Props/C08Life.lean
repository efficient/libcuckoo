import Cuckoo.Proofs.Life.Ledger
import Cuckoo.Props.C03Frame
import Cuckoo.Props.C08
/-!
# C08Life — the object-lifetime discipline, on the model

`Props/C08.lean` proves the logical skeleton of C08 (one live position per key, husks never live, the old array is
released with the last stripe).  This file proves the *lifetime discipline* itself for the executable model: at every
call site a write constructs on an empty cell, destroys an occupied one or assigns in place (§1), the constructed objects
are exactly the stored pairs plus the husks (§2, `objCount_eq`), and dropping an array kills only husks and moved-from
objects, `clear` apart (§3); §4 runs the theorems on a concrete table with a pending migration.

**Objects.**  A key-value object of the C++ table is an occupied cell (`cells[i] = some _`) of a bucket array of the
model: of the current array `t.cur`, or of the superseded array `t.old`.  Cells of `old` whose stripe has been
migrated are *husks*: moved-from objects that stay constructed until the old array is released (`old := none`).
* `Store.set … (some sl)` on an EMPTY cell is a construction (`setKV`); on an occupied cell it would construct over a
  live object.  The only assignment to an occupied cell is `Table.setVal` (the functor's assignment to the mapped
  value of an existing element: no construction, no destruction).
* `Store.set … none` on an OCCUPIED cell is a destruction (`eraseKV`); on an empty cell it would be a double destroy.
* dropping an array destroys every object still in it.

**Not covered** (monitored on the implementation, K5): byte balance of the allocator; the lock array generations
(`oldGens`) carry no objects; `locked_table::erase(iterator)` (`ltEraseAt`) takes a position the caller must keep
valid (C++ precondition; `delFrom_destroys_one_object` applies when it is occupied); `operator>>` (`Table.read`)
replaces the current array wholesale like `clear` + refill.  Known open finding F4: in the real code an exception in
the middle of the rebuild of `cuckoo_expand_simple` leaves moved-from values in the original table; the MODEL returns
the original table there (`rebuild_failure_keeps_table` is a statement about the model only).
-/
namespace Cuckoo.Props.C08Life
open Cuckoo Cuckoo.Model Cuckoo.Spec
variable {κ ν : Type}

/-! ## 1. write discipline at every call site -/

/-- **insertion constructs on an empty cell**: the position `cuckoo_insert_loop` returns with status `ok` is an empty,
in-range cell of the table it returns; with `failure_key_duplicated` it is the occupied cell holding the key -/
theorem insert_constructs_on_empty [DecidableEq κ] (c : Cfg κ) (locked : Bool) (fuel : Nat) (t : Table κ ν) (k : κ)
    (h : Inv c t) (hl : locked = true → AllMig t) :
    match (insertLoop c locked fuel t k).2 with
    | .ok (.free b s) =>
        (insertLoop c locked fuel t k).1.cur.get c.S b s = none ∧ s < c.S ∧
        b < 2 ^ (insertLoop c locked fuel t k).1.hp ∧
        b * c.S + s < (insertLoop c locked fuel t k).1.cur.cells.size
    | .ok (.dup b s) => ∃ sl, (insertLoop c locked fuel t k).1.cur.get c.S b s = some sl ∧ sl.key = k
    | .err _ => True := by
  have P := insertLoop_post c locked fuel t k h hl
  have hi := P.inv
  have q := P.res.2
  generalize insertLoop c locked fuel t k = r at hi q
  obtain ⟨t1, res⟩ := r
  cases res with
  | err e => trivial
  | ok p =>
    cases p with
    | dup b s => exact q.2
    | free b s =>
      obtain ⟨hb, hs, he, _, _⟩ := q
      have hblt : b < 2 ^ t1.hp := cand_lt hb
      exact ⟨he, hs, hblt, cell_lt hi hblt hs⟩

theorem objCount_set (c : Cfg κ) (t t' : Table κ ν) (b s : Nat) (v : Option (Slot κ ν))
    (hcur : t'.cur = t.cur.set c.S b s v) (hold : t'.old = t.old) (hs : s < c.S)
    (hlt : b * c.S + s < t.cur.cells.size) :
    objCount t' + (if (t.cur.get c.S b s).isSome then 1 else 0) = objCount t + (if v.isSome then 1 else 0) := by
  unfold objCount
  rw [hcur, hold, Nat.add_right_comm, Store.count_set c.S t.cur b s v hs hlt, Nat.add_right_comm]

theorem addTo_constructs_one_object (c : Cfg κ) (t : Table κ ν) (b s : Nat) (sl : Slot κ ν) (hs : s < c.S)
    (hlt : b * c.S + s < t.cur.cells.size) (he : t.cur.get c.S b s = none) :
    (t.addTo c b s sl).cur.get c.S b s = some sl ∧
    (∀ b' s', ¬ (b' = b ∧ s' = s) → (t.addTo c b s sl).cur.get c.S b' s' = t.cur.get c.S b' s') ∧
    (t.addTo c b s sl).old = t.old ∧ objCount (t.addTo c b s sl) = objCount t + 1 := by
  have n := objCount_set c t (t.addTo c b s sl) b s (some sl) rfl rfl hs hlt
  rw [he] at n
  exact ⟨Store.get_set_same _ _ _ _ _ hs hlt, fun b' s' => Store.get_set_other _ _ _ _ _ _ _ hs, rfl, by simpa using n⟩

/-- the `add_to_bucket` of `uprase_fn` / `insert` / `locked_table::insert`: the cell is the one returned by the
insertion loop (run with the fuel the operations use), it is empty, and exactly one object is constructed -/
theorem uprase_constructs_one_object [DecidableEq κ] (c : Cfg κ) (locked : Bool) (t t1 : Table κ ν) (k : κ) (v : ν)
    (b s : Nat) (h : Inv c t) (hl : locked = true → AllMig t)
    (hins : insertLoop c locked (c.fuel t.cur.cells.size) t k = (t1, .ok (.free b s))) :
    t1.cur.get c.S b s = none ∧
    (t1.addTo c b s ⟨c.tag k, k, v⟩).cur.get c.S b s = some ⟨c.tag k, k, v⟩ ∧
    (∀ b' s', ¬ (b' = b ∧ s' = s) → (t1.addTo c b s ⟨c.tag k, k, v⟩).cur.get c.S b' s' = t1.cur.get c.S b' s') ∧
    (t1.addTo c b s ⟨c.tag k, k, v⟩).old = t1.old ∧
    objCount (t1.addTo c b s ⟨c.tag k, k, v⟩) = objCount t1 + 1 := by
  have := insert_constructs_on_empty c locked (c.fuel t.cur.cells.size) t k h hl
  rw [hins] at this
  obtain ⟨he, hs, _, hlt⟩ := this
  exact ⟨he, addTo_constructs_one_object c t1 b s _ hs hlt he⟩

/-- **a displacement hop moves one object**: the target was empty, the source occupied; afterwards the target holds
exactly the element the source held, the source is empty (the moved-from source is destroyed), no other cell, the
old array and the locks are unchanged, and the number of objects is the same.  `to.bucket < 2^hp` and
`to.slot < S` are what `cuckoopath_move` guarantees for the records it passes (`PathOK`) -/
theorem hop_moves_one_object (c : Cfg κ) (t t' : Table κ ν) (fr to : PathRec) (h : Inv c t)
    (hhop : hop c t fr to = some t') (hb : to.bucket < 2 ^ t.hp) (hslot : to.slot < c.S) :
    ∃ sl, t.cur.get c.S to.bucket to.slot = none ∧ t.cur.get c.S fr.bucket fr.slot = some sl ∧
      t'.cur.get c.S to.bucket to.slot = some sl ∧ t'.cur.get c.S fr.bucket fr.slot = none ∧
      (∀ b s, ¬ (b = to.bucket ∧ s = to.slot) → ¬ (b = fr.bucket ∧ s = fr.slot) →
        t'.cur.get c.S b s = t.cur.get c.S b s) ∧
      t'.old = t.old ∧ t'.locks = t.locks ∧ objCount t' = objCount t := by
  obtain ⟨sl, hto, hfr, _, rfl⟩ := hop_shape c t t' fr to hhop
  obtain ⟨hfs, hflt⟩ := Store.get_some_lt hfr
  have htlt := cell_lt h hb hslot
  have hg := hop_get hfr hslot htlt
  have hne : ¬ (to.bucket = fr.bucket ∧ to.slot = fr.slot) := fun e => by rw [e.1, e.2, hfr] at hto; cases hto
  refine ⟨sl, hto, hfr, (hg _ _).trans (by rw [if_neg hne, if_pos ⟨rfl, rfl⟩]), (hg _ _).trans (if_pos ⟨rfl, rfl⟩),
    fun b s n1 n2 => (hg b s).trans (by rw [if_neg n2, if_neg n1]), rfl, rfl, ?_⟩
  -- one construction on the empty target, then one destruction of the source, which the first write left alone
  let t1 : Table κ ν := { t with cur := t.cur.set c.S to.bucket to.slot (some sl) }
  have hfr1 : t1.cur.get c.S fr.bucket fr.slot = some sl :=
    (Store.get_set_other _ _ _ _ _ _ _ hslot (fun e => hne ⟨e.1.symm, e.2.symm⟩)).trans hfr
  have e1 := objCount_set c t t1 _ _ (some sl) rfl rfl hslot htlt
  have e2 := objCount_set c t1 { t1 with cur := t1.cur.set c.S fr.bucket fr.slot none } _ _ none rfl rfl hfs
    ((Store.set_size ..).symm ▸ hflt)
  rw [hto] at e1
  rw [hfr1] at e2
  exact Nat.add_right_cancel (e2.trans e1)

/-- the form in which `cuckoopath_move` calls it: the target bucket is the alternate of the source bucket -/
theorem hop_moves_one_object_on_path (c : Cfg κ) (t t' : Table κ ν) (fr to : PathRec) (h : Inv c t)
    (hhop : hop c t fr to = some t')
    (halt : to.bucket = Spec.altIndex t.hp (Spec.partialKey fr.hash) fr.bucket) (hslot : to.slot < c.S) :
    ∃ sl, t.cur.get c.S to.bucket to.slot = none ∧ t.cur.get c.S fr.bucket fr.slot = some sl ∧
      t'.cur.get c.S to.bucket to.slot = some sl ∧ t'.cur.get c.S fr.bucket fr.slot = none ∧
      objCount t' = objCount t := by
  obtain ⟨sl, a1, a2, a3, a4, _, _, _, a8⟩ :=
    hop_moves_one_object c t t' fr to h hhop (by rw [halt]; exact Spec.altIndex_lt _ _ _) hslot
  exact ⟨sl, a1, a2, a3, a4, a8⟩

theorem locate_hit_occupied [DecidableEq κ] (c : Cfg κ) (locked : Bool) (t t1 : Table κ ν) (k : κ) (b s : Nat)
    (hloc : t.locate c locked k = (t1, some (b, s))) : ∃ sl, t1.cur.get c.S b s = some sl ∧ sl.key = k := by
  injection hloc with e1 e2
  subst e1
  exact (cuckooFind_some e2).2

theorem delFrom_destroys_one_object (c : Cfg κ) (t : Table κ ν) (b s : Nat) (sl : Slot κ ν)
    (hg : t.cur.get c.S b s = some sl) :
    (t.delFrom c b s).cur.get c.S b s = none ∧
    (∀ b' s', ¬ (b' = b ∧ s' = s) → (t.delFrom c b s).cur.get c.S b' s' = t.cur.get c.S b' s') ∧
    (t.delFrom c b s).old = t.old ∧ objCount (t.delFrom c b s) + 1 = objCount t := by
  obtain ⟨hs, hlt⟩ := Store.get_some_lt hg
  have n := objCount_set c t (t.delFrom c b s) b s none rfl rfl hs hlt
  rw [hg] at n
  exact ⟨Store.get_set_same _ _ _ _ _ hs hlt, fun b' s' => Store.get_set_other _ _ _ _ _ _ _ hs, rfl, by simpa using n⟩

theorem setVal_assigns_in_place (c : Cfg κ) (t : Table κ ν) (b s : Nat) (sl : Slot κ ν) (v : ν)
    (hg : t.cur.get c.S b s = some sl) :
    (t.setVal c b s v).cur.get c.S b s = some { sl with val := v } ∧
    (t.setVal c b s v).old = t.old ∧ objCount (t.setVal c b s v) = objCount t := by
  obtain ⟨hs, hlt⟩ := Store.get_some_lt hg
  rw [setVal_of_some hg v]
  have n := objCount_set c t { t with cur := _ } b s (some { sl with val := v }) rfl rfl hs hlt
  rw [hg] at n
  exact ⟨Store.get_set_same _ _ _ _ _ hs hlt, rfl, Nat.add_right_cancel n⟩

/-- the erasing branch of `uprase_fn`: the cell is the one just inserted into or the duplicate found, the model
re-reads it (`some sl`), and after the functor's assignment it is still occupied when `del_from_bucket` is called -/
theorem uprase_erase_destroys_occupied (c : Cfg κ) (t : Table κ ν) (b s : Nat) (sl : Slot κ ν) (v : ν)
    (hg : t.cur.get c.S b s = some sl) :
    (t.setVal c b s v).cur.get c.S b s = some { sl with val := v } ∧
    objCount ((t.setVal c b s v).delFrom c b s) + 1 = objCount t := by
  obtain ⟨a1, -, a3⟩ := setVal_assigns_in_place c t b s sl v hg
  obtain ⟨-, -, -, n⟩ := delFrom_destroys_one_object c _ b s _ a1
  rw [a3] at n
  exact ⟨a1, n⟩

/-- **erase destroys an occupied cell** (`erase_fn` / `erase`): the cell `find_fn`'s lookup returns is occupied by the
key, it is still occupied after the functor's assignment, the erasing branch of `fnOp` calls `del_from_bucket` on
exactly that cell, and one object is destroyed -/
theorem erase_destroys_occupied [DecidableEq κ] (c : Cfg κ) (t t1 : Table κ ν) (k : κ) (fn : ν → FnOut ν)
    (b s : Nat) (hloc : t.locate c false k = (t1, some (b, s))) :
    ∃ sl, t1.cur.get c.S b s = some sl ∧ sl.key = k ∧
      ∀ v, fn sl.val = .ret v true →
        (t1.setVal c b s v).cur.get c.S b s = some { sl with val := v } ∧
        (t.fnOp c true k fn).1 = (t1.setVal c b s v).delFrom c b s ∧
        objCount (t.fnOp c true k fn).1 + 1 = objCount t1 := by
  obtain ⟨sl, hg, hk⟩ := locate_hit_occupied c false t t1 k b s hloc
  refine ⟨sl, hg, hk, ?_⟩
  intro v hfn
  have e : (t.fnOp c true k fn).1 = (t1.setVal c b s v).delFrom c b s := by
    rw [(fnOp_found hloc hg true fn).1, applyFn_some hg, hfn]; rfl
  obtain ⟨a1, a2⟩ := uprase_erase_destroys_occupied c t1 b s sl v hg
  exact ⟨a1, e, e ▸ a2⟩

/-- `locked_table::erase(key)`: the cell handed to `del_from_bucket` is occupied by the key; one object destroyed -/
theorem lt_erase_destroys_occupied [DecidableEq κ] (c : Cfg κ) (t : Table κ ν) (k : κ) (b s : Nat)
    (hloc : (t.locate c true k).2 = some (b, s)) :
    ∃ sl, t.cur.get c.S b s = some sl ∧ sl.key = k ∧ (t.ltErase c k).1 = t.delFrom c b s ∧
      objCount (t.ltErase c k).1 + 1 = objCount t := by
  obtain ⟨sl, hg, hk⟩ := locate_hit_occupied c true t t k b s (Prod.ext rfl hloc)
  have e : (t.ltErase c k).1 = t.delFrom c b s := by
    unfold Table.ltErase; rw [hloc]
  obtain ⟨-, -, -, n⟩ := delFrom_destroys_one_object c t b s sl hg
  exact ⟨sl, hg, hk, e, e ▸ n⟩

/-! ### migration: `move_bucket`, `rehash_lock` -/

/-- **`move_bucket` constructs on empty cells**: under the conditions in which it is called (the two target buckets
`b` and `b + 2^oldhp` of the doubled array are empty), `moveBucket` is exactly the left fold of its write trace
`mvWrites` over the current array — constructions only, the old array is an argument that is not returned, so the
sources stay as husks —, and
* every write targets an in-range cell that was empty, and the element is a copy of an occupied cell of old bucket `b`;
* the targets are pairwise different, so each write hits a cell that is empty *when it is executed*;
* the elements written are, in order, exactly the occupied cells of the old bucket (each source copied once);
* afterwards every target holds the element written there -/
theorem moveBucket_constructs_on_empty (c : Cfg κ) (old cur : Store κ ν) (b : Nat)
    (hsz : cur.cells.size = 2 ^ cur.hp * c.S) (hhp : cur.hp = old.hp + 1) (hb : b < 2 ^ old.hp)
    (he1 : ∀ s, cur.get c.S b s = none) (he2 : ∀ s, cur.get c.S (b + 2 ^ old.hp) s = none) :
    moveBucket c old cur b = (mvWrites c old cur.hp b 0 c.S 0).foldl (applyW c.S) cur ∧
    (∀ w ∈ mvWrites c old cur.hp b 0 c.S 0, w.2.1 < c.S ∧ w.1 < 2 ^ cur.hp ∧ cur.get c.S w.1 w.2.1 = none ∧
      ∃ s, old.get c.S b s = some w.2.2) ∧
    (mvWrites c old cur.hp b 0 c.S 0).Pairwise Write.Apart ∧
    (∀ pre w post, mvWrites c old cur.hp b 0 c.S 0 = pre ++ w :: post →
      (pre.foldl (applyW c.S) cur).get c.S w.1 w.2.1 = none) ∧
    (mvWrites c old cur.hp b 0 c.S 0).map (·.2.2) = (List.range c.S).filterMap (fun s => old.get c.S b s) ∧
    (∀ w ∈ mvWrites c old cur.hp b 0 c.S 0, (moveBucket c old cur b).get c.S w.1 w.2.1 = some w.2.2) ∧
    (moveBucket c old cur b).count = cur.count + (mvWrites c old cur.hp b 0 c.S 0).length := by
  have hC := mvWrites_constructs c old cur b hsz hhp hb he1 he2
  rw [moveBucket_eq_fold]
  refine ⟨rfl, fun w hw => ?_, hC.apart, hC.hits_empty, ?_, hC.get_written, hC.count⟩
  · exact ⟨hC.slot w hw, hC.bucket w hw, hC.empty w hw, (mvWrites_range c old cur.hp b hb w hw).2.2.2⟩
  · rw [mvWrites_elems, List.range_eq_range']

/-- one stripe migration under the weak invariant `WInv` (the invariant without the `rem` bookkeeping, which is what
holds between the steps of the batch migration `rehash_with_workers` / `lock_table`): `rehash_lock` on an un-migrated
stripe `l` is the fold of its write trace `rehashWrites` over the current array; the trace is a list of constructions
(`Constructs`: in-range cells that were empty, pairwise different, so empty when the write is executed) into stripe
`l`; the element is a copy of an occupied cell of an old bucket of the stripe, each source copied once; the old array
is either left as it is (its cells of stripe `l` become husks) or released (lazy mode, last stripe) -/
theorem batch_step_trace (c : Cfg κ) (t : Table κ ν) (l : Nat) (lk : Lock) (o : Store κ ν) (lazy : Bool)
    (hw : WInv c t) (hlk : t.locks[l]? = some lk) (hmig : lk.migrated = false) (hold : t.old = some o) :
    (t.rehashLock c l lazy).cur = (rehashWrites c t l o).foldl (applyW c.S) t.cur ∧
    Constructs c.S t.cur (rehashWrites c t l o) ∧
    (∀ w ∈ rehashWrites c t l o, w.1 % c.M = l ∧ ∃ b s, b % c.M = l ∧ b < 2 ^ o.hp ∧ o.get c.S b s = some w.2.2) ∧
    (rehashWrites c t l o).map (·.2.2) =
      ((List.range ((2 ^ o.hp + c.M - 1 - l) / c.M)).map
        (fun i => (List.range c.S).filterMap (fun s => o.get c.S (l + i * c.M) s))).flatten ∧
    ((t.rehashLock c l lazy).old = some o ∨ ((t.rehashLock c l lazy).old = none ∧ lazy = true ∧ t.rem = 1)) := by
  obtain ⟨hC, tgt, src, _⟩ := rehashWrites_spec c t l lk o hw hlk hmig hold
  have e := rehashLock_pending c t l lk o lazy hlk hmig hold
  refine ⟨(congrArg Table.cur e).trans (migrateBuckets_eq_fold ..), hC, fun w h => ⟨(tgt w h).1, src w h⟩,
    stripeWrites_elems .., ?_⟩
  rw [e, migLock_old]
  by_cases hc : lazy = true ∧ t.rem = 1
  · rw [if_pos hc]; exact .inr ⟨rfl, hc⟩
  · rw [if_neg hc]; exact .inl rfl

/-- **`rehash_lock` constructs on empty cells**: the same under the full invariant (taking a stripe in normal mode) -/
theorem rehashLock_constructs_on_empty (c : Cfg κ) (t : Table κ ν) (l : Nat) (lk : Lock) (o : Store κ ν) (z : Bool)
    (h : Inv c t) (hlk : t.locks[l]? = some lk) (hmig : lk.migrated = false) (hold : t.old = some o) :
    (t.rehashLock c l z).cur = (rehashWrites c t l o).foldl (applyW c.S) t.cur ∧
    (∀ w ∈ rehashWrites c t l o, w.2.1 < c.S ∧ w.1 < 2 ^ t.hp ∧ w.1 % c.M = l ∧ t.cur.get c.S w.1 w.2.1 = none ∧
      ∃ b s, b % c.M = l ∧ b < 2 ^ o.hp ∧ o.get c.S b s = some w.2.2) ∧
    (rehashWrites c t l o).Pairwise Write.Apart ∧
    (∀ pre w post, rehashWrites c t l o = pre ++ w :: post →
      (pre.foldl (applyW c.S) t.cur).get c.S w.1 w.2.1 = none) ∧
    (t.rehashLock c l z).cur.count = t.cur.count + (rehashWrites c t l o).length ∧
    ((t.rehashLock c l z).old = some o ∨ ((t.rehashLock c l z).old = none ∧ z = true ∧ t.rem = 1)) := by
  obtain ⟨hcur, hC, horg, _, hrel⟩ := batch_step_trace c t l lk o z h.toW hlk hmig hold
  exact ⟨hcur, fun w hw => ⟨hC.slot w hw, hC.bucket w hw, (horg w hw).1, hC.empty w hw, (horg w hw).2⟩, hC.apart,
    hC.hits_empty, hcur ▸ hC.count, hrel⟩

/-- a stripe that is already migrated (or a table without an old array) is not touched at all: no object is
constructed twice by taking the same stripe again -/
theorem rehashLock_migrated_noop (c : Cfg κ) (t : Table κ ν) (l : Nat) (z : Bool)
    (h : ∀ lk, t.locks[l]? = some lk → lk.migrated = true ∨ t.old = none) : t.rehashLock c l z = t :=
  rehashLock_skip c t l z h

/-- the eager loop of `cuckoo_fast_double` (fewer than `kMaxNumLocks` buckets): the new current array is the fold of
the write trace over a fresh, entirely empty array; the targets are in range and pairwise different (so every write
constructs on an empty cell), every element is a copy of an occupied cell of the former current array -/
theorem eager_double_constructs_on_empty [DecidableEq κ] (c : Cfg κ) (locked : Bool) (t1 : Table κ ν)
    (hlt : 2 ^ t1.hp < c.M) :
    (Rz.doubleCore c locked t1 (t1.hp + 1)).cur =
      (stripeWrites c t1.cur (t1.hp + 1) 1 (2 ^ t1.hp) 0).foldl (applyW c.S) (Store.mk' c.S (t1.hp + 1)) ∧
    (∀ b s, (Store.mk' c.S (t1.hp + 1) : Store κ ν).get c.S b s = none) ∧
    (∀ w ∈ stripeWrites c t1.cur (t1.hp + 1) 1 (2 ^ t1.hp) 0, w.2.1 < c.S ∧ w.1 < 2 ^ (t1.hp + 1) ∧
      ∃ b s, t1.cur.get c.S b s = some w.2.2) ∧
    (stripeWrites c t1.cur (t1.hp + 1) 1 (2 ^ t1.hp) 0).Pairwise Write.Apart ∧
    (∀ pre w post, stripeWrites c t1.cur (t1.hp + 1) 1 (2 ^ t1.hp) 0 = pre ++ w :: post →
      (pre.foldl (applyW c.S) (Store.mk' c.S (t1.hp + 1))).get c.S w.1 w.2.1 = none) := by
  have hbd : ∀ i : Nat, i < 2 ^ t1.hp → 0 + i * 1 < 2 ^ t1.cur.hp := fun i hi => by
    rw [Nat.zero_add, Nat.mul_one]; exact hi
  have hC := stripeWrites_constructs c t1.cur (Store.mk' c.S (t1.hp + 1)) 1 _ 0 (Store.mk'_size _ _) rfl Nat.one_pos hbd
    (fun _ _ _ => ⟨Store.mk'_get _ _ _ _, Store.mk'_get _ _ _ _⟩)
  refine ⟨?_, fun b s => Store.mk'_get _ _ _ _, fun w hw => ?_, hC.apart, hC.hits_empty⟩
  · rw [Rz.doubleCore_eager_eq c locked t1 hlt]
    exact fastDouble_mv_eq_fold c t1.cur (2 ^ t1.hp) 0 (Store.mk' c.S (t1.hp + 1))
  · obtain ⟨_, _, _, _, _, s, h⟩ := stripeWrites_range c t1.cur (t1.hp + 1) 1 (2 ^ t1.hp) 0 hbd w hw
    exact ⟨hC.slot w hw, hC.bucket w hw, _, s, h⟩

/-! ### the rebuild loop of `cuckoo_expand_simple` -/

/-- **the rebuild constructs on empty cells**: in `cuckoo_expand_simple` (after the checks passed and the pending
migration was finished, `t1 = t.migrateAll`), the temporary map starts with every cell empty, and for every element
`sl` of the current array — whatever was inserted before it (`pre`) — the insertion loop on the temporary map returns
an *empty*, in-range cell (never a duplicate) or an error, and `rebuildStep` hands exactly that cell to
`add_to_bucket` -/
theorem rebuild_constructs_on_empty [DecidableEq κ] (c : Cfg κ) (auto : Bool) (fuel : Nat) (t : Table κ ν)
    (newHp : Nat) (h : Inv c t) (hchk : t.checkResize c auto newHp = none)
    (pre post : List (Slot κ ν)) (sl : Slot κ ν) (hsplit : (t.migrateAll c).cur.elems = pre ++ sl :: post)
    (acc : Table κ ν)
    (hacc : pre.foldl (rebuildStep c (insertLoop c false fuel)) (tmpMap c auto (t.migrateAll c) newHp, .ok ()) =
      (acc, .ok ())) :
    (∀ b s, (tmpMap c auto (t.migrateAll c) newHp).cur.get c.S b s = none) ∧
    match insertLoop c false fuel acc sl.key with
    | (nm1, .ok (.free b s)) =>
        nm1.cur.get c.S b s = none ∧ s < c.S ∧ b < 2 ^ nm1.hp ∧ b * c.S + s < nm1.cur.cells.size ∧
        rebuildStep c (insertLoop c false fuel) (acc, .ok ()) sl =
          (nm1.addTo c b s ⟨c.tag sl.key, sl.key, sl.val⟩, .ok ())
    | (_, .ok (.dup _ _)) => False
    | (nm1, .err e) => rebuildStep c (insertLoop c false fuel) (acc, .ok ()) sl = (nm1, .err e) := by
  have M := migrateAll_spec c t h
  have hlim : (t.migrateAll c).mhp = noMaxHp ∨ newHp ≤ (t.migrateAll c).mhp := by
    rw [M.same.mhp]; exact Rz.checkResize_none hchk
  have e := Rz.tmpMap_empty c auto (t.migrateAll c) newHp M.inv hlim
  exact ⟨fun _ _ => Store.mk'_get .., rebuild_prefix c fuel _ _ e.inv (Rz.elems_tag M.inv)
    (Store.elems_pairwise h.S_pos _ (Rz.inv_curUniq M.inv)) (fun _ _ _ _ => e.no_live _) pre post sl hsplit acc hacc⟩

/-! ## 2. the ledger -/

/-- **ledger**: at every quiescent point the constructed, not yet destroyed objects (`objCount`: the occupied cells
of the current and of the old array) are exactly the stored pairs plus the husks of the array kept for deferred
migration.  Destroying the table destroys every occupied cell of both arrays once, i.e. exactly these objects: every
stored pair once, every husk once, nothing else -/
theorem objCount_eq (c : Cfg κ) (t : Table κ ν) (m : AMap κ ν) (h : Inv c t) (hr : Rel c t m) :
    objCount t = m.length + husks c t := by
  rw [objCount_split c t, rel_length h hr]

/-- the same, cell by cell: an occupied cell of the current array is a live element; an occupied cell of the old array
is a live element if its stripe is un-migrated and a husk (not live) otherwise; and the live elements are the pairs -/
theorem every_object_is_a_pair_or_a_husk (c : Cfg κ) (t : Table κ ν) (m : AMap κ ν) (hr : Rel c t m) :
    (∀ b s sl, t.cur.get c.S b s = some sl → (sl.key, sl.val) ∈ m) ∧
    (∀ o b s sl, t.old = some o → o.get c.S b s = some sl →
      (t.unmigB c b = true ∧ (sl.key, sl.val) ∈ m) ∨ (t.unmigB c b = false ∧ t.at c (.old b s) = none)) := by
  refine ⟨?_, ?_⟩
  · intro b s sl hg
    exact (hr.pairs sl.key sl.val).mpr ⟨sl.tag, .cur b s, hg⟩
  · intro o b s sl ho hg
    cases hu : t.unmigB c b with
    | true =>
      left
      exact ⟨rfl, (hr.pairs sl.key sl.val).mpr ⟨sl.tag, .old b s, (at_old_some_iff c t b s sl).mpr ⟨o, ho, hu, hg⟩⟩⟩
    | false =>
      right
      exact ⟨rfl, C08.husks_never_live c t b s hu⟩

theorem no_husks_without_old (c : Cfg κ) (t : Table κ ν) (h : t.old = none) : husks c t = 0 := by
  unfold husks; rw [h]

theorem objCount_eq_of_no_old (c : Cfg κ) (t : Table κ ν) (m : AMap κ ν) (h : Inv c t) (hr : Rel c t m)
    (ho : t.old = none) : objCount t = m.length := by
  rw [objCount_eq c t m h hr, no_husks_without_old c t ho]; rfl

/-- the per-stripe element counters add up to the number of live cells (`liveCount`, the quantity the driver's
self-check compares them with), which is the number of stored pairs -/
theorem counters_count_live_objects (c : Cfg κ) (t : Table κ ν) (m : AMap κ ν) (h : Inv c t) (hr : Rel c t m) :
    t.sumCnt = (t.liveCount c : Int) ∧ t.liveCount c = m.length ∧ objCount t = t.liveCount c + husks c t := by
  have e : t.liveCount c = m.length := by rw [liveCount_eq, rel_length h hr]
  exact ⟨by rw [hr.count, e], e, by rw [e]; exact objCount_eq c t m h hr⟩

/-! ## 3. who dies when an array is dropped -/

/-- **releasing the old array kills only husks.**  `OldAllHusks c t0`: every occupied cell of `t0.old` lies in a
migrated stripe (`unmigB = false`) and is therefore no live element (`t0.at c (.old b s) = none`).  At each site that
sets `old := none` on the strength of the migration flags, the state `t0` *just before* the release (flag of the last
stripe already set, array still there) satisfies it:
* (a) lazy: `rehash_lock` on the stripe that takes `rem` from 1 to 0 — `t0 = migT c t l o`;
* (b) batch: `rehash_with_workers` / the loop at the start of `cuckoo_fast_double` / `cuckoo_expand_simple` —
  `t0 = migrateAll.go …` (all stripes done), then `num_remaining_lazy_rehash_locks(0)`;
* (c) `lock_table` is (b).
(`clear` also stores 0, but destroys everything: `clear_destroys_everything`; the eager branch of
`cuckoo_fast_double` does not go by the flags: `eager_double_drops_only_moved`.) -/
theorem old_release_kills_only_husks (c : Cfg κ) (t : Table κ ν) (h : Inv c t) :
    (∀ l lk o, t.rem = 1 → t.locks[l]? = some lk → lk.migrated = false → t.old = some o →
      t.rehashLock c l true = { migT c t l o with rem := 0, old := none } ∧ (migT c t l o).old = some o ∧
      OldAllHusks c (migT c t l o)) ∧
    (t.migrateAll c = { Table.migrateAll.go c t.locks.size 0 t with rem := 0, old := none } ∧
      OldAllHusks c (Table.migrateAll.go c t.locks.size 0 t)) ∧
    t.lockTable c = t.migrateAll c := by
  refine ⟨fun l lk o hrem hlk hmig hold =>
      ⟨rehashLock_last c t l lk o hrem hlk hmig hold, hold, oldAllHusks_of_allMig c _ ?_⟩,
    ⟨migrateAll_eq c t, oldAllHusks_of_allMig c _ (migrateAll_go_migr c t h.toW).2⟩, rfl⟩
  -- `rem = 1` counts the un-migrated stripes: flagging stripe `l` leaves none
  have n0 := migT_nUnmig c t l lk o hlk hmig
  exact (nUnmig_zero_iff _).mp (by have := h.rem_eq; omega)

/-- with every stripe migrated, all objects of the old array are husks — in numbers too -/
theorem all_old_objects_are_husks (c : Cfg κ) (t : Table κ ν) (o : Store κ ν) (ha : AllMig t) (ho : t.old = some o) :
    OldAllHusks c t ∧ husks c t = o.count ∧ liveOld c t = 0 := by
  have h0 := liveOld_of_allMig c t ha
  exact ⟨oldAllHusks_of_allMig c t ha, by rw [old_count_split c t o ho, h0, Nat.zero_add], h0⟩

/-- **the eager branch of `cuckoo_fast_double` drops only moved-from objects**: the former current array is released
at once, and every element it held has been constructed in the new current array (and nothing else has) -/
theorem eager_double_drops_only_moved [DecidableEq κ] (c : Cfg κ) (locked : Bool) (t1 : Table κ ν) (h1 : Inv c t1)
    (hlt : 2 ^ t1.hp < c.M) :
    (Rz.doubleCore c locked t1 (t1.hp + 1)).old = none ∧
    ∀ sl, (∃ b s, t1.cur.get c.S b s = some sl) ↔
      (∃ b s, (Rz.doubleCore c locked t1 (t1.hp + 1)).cur.get c.S b s = some sl) := by
  rw [Rz.doubleCore_eager_eq c locked t1 hlt]
  refine ⟨rfl, fun sl => (((Rz.mv_spec h1.cur_wf (Rz.inv_curUniq h1)).content sl).trans ⟨?_, ?_⟩).symm⟩
  · rintro ⟨b, s, _, hg⟩; exact ⟨b, s, hg⟩
  · rintro ⟨b, s, hg⟩; exact ⟨b, s, Store.get_some_bucket_lt h1.cur_wf.size hg, hg⟩

/-- the same release seen through the flags, as at the other sites: in the eager branch the flags are never reset, so
just before `num_remaining_lazy_rehash_locks(0)` every stripe is flagged migrated and every object of the array about
to be released counts as a husk (what makes this *correct* is `eager_double_drops_only_moved`) -/
theorem eager_double_release_kills_only_husks [DecidableEq κ] (c : Cfg κ) (locked : Bool) (t1 : Table κ ν)
    (ha : AllMig t1) (hlt : 2 ^ t1.hp < c.M) :
    Rz.doubleCore c locked t1 (t1.hp + 1) =
      ({ t1.maybeResizeLocks c (2 ^ (t1.hp + 1)) with
          old := some t1.cur,
          cur := fastDouble.mv c t1.cur (2 ^ t1.hp) 0 (Store.mk' c.S (t1.hp + 1)) } : Table κ ν).setRem 0 ∧
    OldAllHusks c ({ t1.maybeResizeLocks c (2 ^ (t1.hp + 1)) with
          old := some t1.cur,
          cur := fastDouble.mv c t1.cur (2 ^ t1.hp) 0 (Store.mk' c.S (t1.hp + 1)) } : Table κ ν) :=
  ⟨Rz.doubleCore_eager_eq c locked t1 hlt,
    oldAllHusks_of_allMig c _ ((maybeResizeLocks_spec c t1 (2 ^ (t1.hp + 1))).allmig ha)⟩

/-- **`cuckoo_fast_double` (lazy branch) keeps every object**: with at least `kMaxNumLocks` buckets, in normal mode,
after the checks have passed, the pending migration is finished first (`t1 = t.migrateAll`, whose old array is already
released: nothing is overwritten), then the former current array *becomes* the old array as it is — no object is
constructed or destroyed —, the new current array is entirely empty, every cell of the old array is a live element
under its old coordinates, and there are no husks -/
theorem fast_double_keeps_every_object [DecidableEq κ] (c : Cfg κ) (auto : Bool) (fuel : Nat) (t : Table κ ν)
    (h : Inv c t) (hn : c.nothrowMove = true) (hchk : t.checkResize c auto (t.hp + 1) = none)
    (hlim : t.hp + 1 ≤ c.hpLimit) (hge : c.M ≤ 2 ^ t.hp) :
    ∃ t', fastDouble c false auto (fuel + 1) t t.hp = (t', .ok true) ∧
      (t.migrateAll c).old = none ∧ t'.old = some (t.migrateAll c).cur ∧
      (∀ b s, t'.cur.get c.S b s = none) ∧
      (∀ b s, t'.unmigB c b = true ∧ t'.at c (.old b s) = (t.migrateAll c).at c (.cur b s)) ∧
      objCount t' = objCount (t.migrateAll c) ∧ husks c t' = 0 := by
  have M := migrateAll_spec c t h
  have hge' : c.M ≤ 2 ^ (t.migrateAll c).hp := M.keeps.hp.symm ▸ hge
  have e := (Rz.doubleCore_lazy_eq c false (t.migrateAll c) M.inv hge').trans (if_neg Bool.false_ne_true)
  rw [M.keeps.hp] at e
  have hfd : fastDouble c false auto (fuel + 1) t t.hp =
      (Rz.bumpRc (Rz.doubleCore c false (t.migrateAll c) (t.hp + 1)), .ok true) := by
    rw [fastDouble_self c false auto fuel t hn, hchk]
    exact if_neg (Nat.not_lt.mpr hlim)
  rw [e] at hfd
  refine ⟨_, hfd, M.old, rfl, fun b s => Store.mk'_get _ _ _ _, ?_⟩
  refine (fun hat => ⟨hat, ?_, husks_of_allUnmig c _ fun b => (hat b 0).1⟩)
    (Rz.lazy_at_old c (t.migrateAll c) _ M.inv hge' rfl rfl)
  -- the objects are those of the former current array, which has become the old one
  unfold objCount
  rw [M.old]
  show (Store.mk' c.S _ : Store κ ν).count + (t.migrateAll c).cur.count = _
  rw [Store.mk'_count, Nat.zero_add, Nat.add_zero]

/-- **a successful rebuild drops only moved-from objects**: when `cuckoo_expand_simple` succeeds, every element of the
dropped former current array (and every live element of the table) has been constructed in the rebuilt array that
replaces it, no old array is left, the contents are the same map, and the objects are exactly the stored pairs -/
theorem rebuild_drops_only_husks [DecidableEq κ] (c : Cfg κ) (locked auto : Bool) (fuel : Nat) (t t' : Table κ ν)
    (newHp : Nat) (r : Bool) (m : AMap κ ν) (h : Inv c t) (hr : Rel c t m) (hl : locked = true → AllMig t)
    (hres : expandSimple c locked auto fuel t newHp = (t', .ok r)) :
    (∀ b s sl, (t.migrateAll c).cur.get c.S b s = some sl → ∃ b' s', t'.cur.get c.S b' s' = some sl) ∧
    (∀ sl, t.Live c sl ↔ ∃ b' s', t'.cur.get c.S b' s' = some sl) ∧
    t'.old = none ∧ Inv c t' ∧ Rel c t' m ∧ objCount t' = m.length := by
  have p := expandSimple_post c locked auto fuel t newHp h hl
  rw [hres] at p
  have hold := expandSimple_ok_old c locked auto fuel t t' newHp r hres
  have hlive : ∀ sl, t.Live c sl ↔ ∃ b' s', t'.cur.get c.S b' s' = some sl := fun sl =>
    (p.same.live sl).symm.trans (p.res.1.live_iff_cur sl)
  exact ⟨fun b s sl hg => (hlive sl).mp (((migrateAll_spec c t h).same.live sl).mp ⟨.cur b s, hg⟩), hlive, hold, p.inv,
    hr.of_same p.same, objCount_eq_of_no_old c t' m p.inv (hr.of_same p.same) hold⟩

/-- **a failed rebuild keeps the table** (statement about the MODEL): the table returned with an error is the original
one, or the original one with its pending migration finished; either way it satisfies the invariant and represents
the same map, so no object has been lost or left moved-from.  (Known open finding F4: the real
`cuckoo_expand_simple` moves the elements into the temporary map, so an exception in the middle of the loop leaves
moved-from values behind; the model does not represent that.) -/
theorem rebuild_failure_keeps_table [DecidableEq κ] (c : Cfg κ) (locked auto : Bool) (fuel : Nat) (t t' : Table κ ν)
    (newHp : Nat) (e : Err) (m : AMap κ ν) (h : Inv c t) (hr : Rel c t m)
    (hres : expandSimple c locked auto fuel t newHp = (t', .err e)) :
    (t' = t ∨ t' = t.migrateAll c) ∧ Inv c t' ∧ Rel c t' m ∧ objCount t' = m.length + husks c t' := by
  have hshape : t' = t ∨ t' = t.migrateAll c := expandSimple_cases c locked auto fuel t newHp hres
  have M := migrateAll_spec c t h
  have : Inv c t' ∧ Rel c t' m := by
    rcases hshape with rfl | rfl
    · exact ⟨h, hr⟩
    · exact ⟨M.inv, hr.of_same M.same⟩
  exact ⟨hshape, this.1, this.2, objCount_eq c t' m this.1 this.2⟩

/-- **`clear` destroys everything**: no cell of the current array is occupied, there is no old array, no object left -/
theorem clear_destroys_everything (c : Cfg κ) (t : Table κ ν) :
    (∀ b s, (t.clear c).cur.get c.S b s = none) ∧ (t.clear c).cur.count = 0 ∧ (t.clear c).old = none ∧
    objCount (t.clear c) = 0 := by
  refine ⟨fun b s => Store.mk'_get _ _ _ _, Store.mk'_count _ _, rfl, ?_⟩
  show (Store.mk' c.S t.hp : Store κ ν).count + 0 = 0
  rw [Store.mk'_count]

theorem objCount_clear (c : Cfg κ) (t : Table κ ν) : objCount (t.clear c) = 0 :=
  (clear_destroys_everything c t).2.2.2

/-- after `lock_table` / a finished migration the objects are exactly the stored pairs: the husks died with the old
array, nothing else did -/
theorem objCount_lockTable (c : Cfg κ) (t : Table κ ν) (m : AMap κ ν) (h : Inv c t) (hr : Rel c t m) :
    objCount (t.lockTable c) = m.length ∧ objCount (t.migrateAll c) = m.length ∧
    objCount t = objCount (t.migrateAll c) + husks c t := by
  have M := migrateAll_spec c t h
  have e := objCount_eq_of_no_old c _ m M.inv (hr.of_same M.same) M.old
  exact ⟨e, e, by rw [e]; exact objCount_eq c t m h hr⟩

/-! ## 4. non-vacuity: the concrete table of `Props/C03Frame.lean` with a pending migration

`cE`: 2 slots per bucket, 2 stripes, identity hash.  `tFull`: 2 buckets holding keys 0,1,2,3.  `tPend`: after
`cuckoo_fast_double` — 4 buckets, both stripes pending, all four elements still in the old array. -/
section Examples
open Cuckoo.Props.C03Frame

/-- stripe 0 taken lazily -/
def tOne : Table Nat Nat := tPend.rehashLock cE 0 true
/-- … then stripe 1: the last one -/
def tTwo : Table Nat Nat := tOne.rehashLock cE 1 true

theorem tOne_inv : Inv cE tOne := (rehashLock_lazy_step cE tPend 0 tPend_inv).inv
theorem tTwo_inv : Inv cE tTwo := (rehashLock_lazy_step cE tOne 1 tOne_inv).inv
theorem tOne_rel : ∃ m, Rel cE tOne m := by
  obtain ⟨m, r⟩ := tPend_rel
  exact ⟨m, r.of_same (rehashLock_lazy_step cE tPend 0 tPend_inv).same⟩

/-- (target bucket, target slot, key) of the writes of `rehash_lock(l)` -/
def traceOf (t : Table Nat Nat) (l : Nat) : List (Nat × Nat × Nat) :=
  match t.old with
  | some o => (rehashWrites cE t l o).map (fun (w : Write Nat Nat) => (w.1, w.2.1, w.2.2.key))
  | none => []

/-- the ledger along the migration: 4 objects, all live in the old array; after stripe 0 two copies have been
constructed (6 objects: 4 pairs + 2 husks); after the last stripe the old array is gone with its 4 husks and the 4
objects left are the 4 pairs -/
example : objCount tPend = 4 ∧ husks cE tPend = 0 ∧ liveOld cE tPend = 4 := by decide +kernel
example : objCount tOne = 6 ∧ husks cE tOne = 2 ∧ liveOld cE tOne = 2 ∧ tOne.rem = 1 := by decide +kernel
example : objCount tTwo = 4 ∧ husks cE tTwo = 0 ∧ tTwo.old.isSome = false := by decide +kernel

/-- the ledger theorem applies to the pending tables (its hypotheses are satisfiable with husks present) -/
example : ∃ m : AMap Nat Nat, objCount tOne = m.length + husks cE tOne ∧ husks cE tOne = 2 := by
  obtain ⟨m, r⟩ := tOne_rel
  exact ⟨m, objCount_eq cE tOne m tOne_inv r, by decide +kernel⟩

/-- the writes of `rehash_lock(0)` on the pending table: key 2 goes up into bucket 2 (slot 0), key 0 stays in bucket 0
at its slot 1; of `rehash_lock(1)`: keys 3 and 1 go up into bucket 3 -/
example : traceOf tPend 0 = [(2, 0, 2), (0, 1, 0)] ∧ traceOf tPend 1 = [(3, 0, 3), (3, 1, 1)] := by decide +kernel

/-- the write-discipline theorem applies to it: un-migrated stripe, old array present -/
example : ∃ o, tPend.old = some o ∧ (rehashWrites cE tPend 0 o).Pairwise Write.Apart ∧
    (∀ w ∈ rehashWrites cE tPend 0 o, tPend.cur.get cE.S w.1 w.2.1 = none) ∧
    tOne.cur.count = tPend.cur.count + (rehashWrites cE tPend 0 o).length := by
  have ⟨hl, hs⟩ : tPend.locks[0]? = some ⟨2, false⟩ ∧ tPend.old.isSome = true := by decide +kernel
  obtain ⟨o, ho⟩ := Option.isSome_iff_exists.mp hs
  obtain ⟨_, a2, a3, _, a5, _⟩ := rehashLock_constructs_on_empty cE tPend 0 _ o true tPend_inv hl rfl ho
  exact ⟨o, ho, a3, fun w hw => (a2 w hw).2.2.2.1, a5⟩

/-- the lazy release really happens on `tOne` (`rem = 1`, stripe 1 pending), and by the theorem the array released
holds husks only -/
example : ∃ o, tOne.old = some o ∧ tTwo = { migT cE tOne 1 o with rem := 0, old := none } ∧
    OldAllHusks cE (migT cE tOne 1 o) := by
  have ⟨hl, hrem, hs⟩ : tOne.locks[1]? = some ⟨2, false⟩ ∧ tOne.rem = 1 ∧ tOne.old.isSome = true := by
    decide +kernel
  obtain ⟨o, ho⟩ := Option.isSome_iff_exists.mp hs
  obtain ⟨a1, _, a3⟩ := (old_release_kills_only_husks cE tOne tOne_inv).1 1 _ o hrem hl rfl ho
  exact ⟨o, ho, a1, a3⟩

/-- a hop on the migrated table (key 3 from bucket 3 slot 0 to the empty cell (1, 0)) passes its validations, and by
the theorem it moves exactly one object -/
example : ∃ t', hop cE tTwo ⟨3, 0, 3, 0⟩ ⟨1, 0, 0, 0⟩ = some t' ∧ objCount t' = objCount tTwo ∧
    (t'.cur.get cE.S 3 0).isSome = false ∧ (t'.cur.get cE.S 1 0).isSome = true := by
  have ⟨hs, hb⟩ : (hop cE tTwo ⟨3, 0, 3, 0⟩ ⟨1, 0, 0, 0⟩).isSome = true ∧ 1 < 2 ^ tTwo.hp := by decide +kernel
  obtain ⟨t', hh⟩ := Option.isSome_iff_exists.mp hs
  obtain ⟨sl, _, _, a3, a4, _, _, _, a8⟩ :=
    hop_moves_one_object cE tTwo t' ⟨3, 0, 3, 0⟩ ⟨1, 0, 0, 0⟩ tTwo_inv hh hb (by decide)
  exact ⟨t', hh, a8, by rw [a4]; rfl, by rw [a3]; rfl⟩

/-- the range hypotheses of `hop_moves_one_object` are needed: a target record outside the array reads as empty, the
write to it is dropped, and the source would be destroyed without a copy (3 objects left of 4).  `cuckoopath_move`
never passes such a record (`PathOK`: slot `< S`, bucket an alternate index `< 2^hp`) -/
example : (hop cE tTwo ⟨3, 0, 3, 0⟩ ⟨9, 0, 0, 0⟩).map objCount = some 3 ∧ objCount tTwo = 4 := by decide +kernel

/-- `erase(1)` on the pending table: stripe 1 is migrated (two constructions, two husks), then one object is
destroyed: 5 objects = 3 pairs + 2 husks -/
example : objCount (tPend.fnOp cE true 1 (fun v => .ret v true)).1 = 5 ∧
    husks cE (tPend.fnOp cE true 1 (fun v => .ret v true)).1 = 2 := by decide +kernel

/-- `clear` on the table with husks leaves no object -/
example : objCount (tOne.clear cE) = 0 := objCount_clear cE tOne

/-- `lock_table` on the table with husks: the 2 husks die with the old array, the 4 pairs stay -/
example : objCount (tOne.lockTable cE) = 4 ∧ (tOne.lockTable cE).old.isSome = false := by decide +kernel

/-- the hypotheses of `fast_double_keeps_every_object` hold for the full table (`tPend` is the table it produces) -/
example : ∃ t', fastDouble cE false false 5 tFull tFull.hp = (t', .ok true) ∧ husks cE t' = 0 ∧
    objCount t' = objCount (tFull.migrateAll cE) := by
  have ⟨h1, h2, h3⟩ : tFull.checkResize cE false (tFull.hp + 1) = none ∧ tFull.hp + 1 ≤ cE.hpLimit ∧
      cE.M ≤ 2 ^ tFull.hp := by decide +kernel
  obtain ⟨t', a1, _, _, _, _, a6, a7⟩ := fast_double_keeps_every_object cE false 4 tFull tFull_inv rfl h1 h2 h3
  exact ⟨t', a1, a7, a6⟩

/-- a successful rebuild (`rehash(2)` on the table with husks): by the theorem the 4 pairs are the only objects left -/
example : ∃ t', expandSimple cE false false 8 tOne 2 = (t', .ok true) ∧ t'.old = none ∧
    ∃ m : AMap Nat Nat, objCount t' = m.length := by
  have hok : (match (expandSimple cE false false 8 tOne 2).2 with | .ok true => true | _ => false) = true := by
    decide +kernel
  obtain ⟨m, r⟩ := tOne_rel
  rcases hres : expandSimple cE false false 8 tOne 2 with ⟨t', res⟩
  rw [hres] at hok
  cases res with
  | err e => cases hok
  | ok b =>
    cases b with
    | false => cases hok
    | true =>
      obtain ⟨_, _, a3, _, _, a6⟩ :=
        rebuild_drops_only_husks cE false false 8 tOne t' 2 true m tOne_inv r nofun hres
      exact ⟨t', rfl, a3, m, a6⟩

end Examples

end Cuckoo.Props.C08Life
