import Cuckoo.Proofs.ProtoInv
/-!
# C04 — every operation terminates and leaves no lock behind (protocol part)

* Locks are taken in strictly ascending (lock array, index) order by every thread — including `lock_all` walking
  into arrays appended meanwhile and arrays born locked — so no waits-for cycle can form: **deadlock freedom**.
* A call that returns holds no lock; an active locked section holds every lock of the current array and gives all
  of them back (including arrays created while it was active).
* The BFS is bounded by compile-time constants regenerated from the source (`Gen/Consts.lean`).
Termination under every fair schedule (absence of livelock between inserters that keep invalidating each other's
cuckoo paths) is NOT proved.  What is proved is deadlock freedom and lock hygiene; K3 monitors a step budget.
-/
namespace Cuckoo.Props.C04
open Cuckoo.Proto

/-- every thread's held locks were taken in strictly ascending order -/
theorem lock_rank_ascending (s : PS) (h : Reach s) (t : Tid) : Desc (s.th t).held :=
  (desc_iff_pairwise _).2 ((reach_inv s h).thr t).held_desc

/-- a new lock is only ever taken above everything the thread already holds -/
theorem acquire_above_held (s s' : PS) (t : Tid) (l : LockId) (ha : accept s (.acquire t l) = some s') :
    ∀ m ∈ (s.th t).held, m < l :=
  (accept_acquire_iff.1 ha).2.2.1

/-- pure order fact: if every waiting thread waits for a lock above all the locks it holds, there is no cycle of
threads each waiting for a lock held by the next -/
theorem no_wait_cycle (holds : Tid → List LockId) (wants : Tid → Option LockId)
    (hasc : ∀ t l, wants t = some l → ∀ m ∈ holds t, m < l)
    (cycle : List Tid) (hne : cycle ≠ [])
    (hc : ∀ i, i < cycle.length →
      ∃ l, wants (cycle.getD i 0) = some l ∧ l ∈ holds (cycle.getD ((i + 1) % cycle.length) 0)) : False := by
  have hn : 0 < cycle.length := List.length_pos_iff.2 hne
  -- a position of the cycle whose request is maximal: the next position holds that lock and requests a larger one
  let w : Nat → LockId := fun i => (wants (cycle.getD i 0)).getD ⟨0, 0⟩
  obtain ⟨i₀, hi₀, hmax⟩ := exists_maximal w (List.range cycle.length) (by
    intro h; rw [List.range_eq_nil] at h; omega)
  obtain ⟨l, hl, hmem⟩ := hc i₀ (List.mem_range.1 hi₀)
  have hj : (i₀ + 1) % cycle.length < cycle.length := Nat.mod_lt _ hn
  obtain ⟨l', hl', -⟩ := hc _ hj
  apply hmax _ (List.mem_range.2 hj)
  show (wants (cycle.getD i₀ 0)).getD ⟨0, 0⟩ < (wants (cycle.getD ((i₀ + 1) % cycle.length) 0)).getD ⟨0, 0⟩
  rw [hl, hl']
  exact hasc _ l' hl' l hmem

/-- **deadlock freedom**: in a reachable state, a non-empty set of threads cannot all be blocked on locks held by
members of the set, when their requests respect the order rule (which `accept` enforces for every request) -/
theorem proto_deadlock_free (s : PS) (h : Reach s) (blocked : List Tid) (hne : blocked ≠ []) (hnd : blocked.Nodup)
    (wants : Tid → LockId)
    (hasc : ∀ t ∈ blocked, ∀ m ∈ (s.th t).held, m < wants t)
    (hheld : ∀ t ∈ blocked, ∃ u ∈ blocked, s.holder (wants t) = some u) : False := by
  have hi := reach_inv s h
  obtain ⟨t₀, ht₀, hmax⟩ := exists_maximal wants blocked hne
  obtain ⟨u, hu, hhold⟩ := hheld t₀ ht₀
  have hm : wants t₀ ∈ (s.th u).held := ((hi.thr u).held_iff _).2 hhold
  exact hmax u hu (hasc u hu _ hm)

/-- a call that returns (not handing out a locked table) holds no lock -/
theorem no_lock_after_return (s s' : PS) (h : Reach s) (t : Tid) (ha : accept s (.opEnd t false) = some s') :
    (s.th t).held = [] ∧ ∀ l, s'.holder l ≠ some t := by
  obtain ⟨⟨he, -⟩, hs⟩ := accept_opEnd_iff.1 ha
  rw [hs]; exact ⟨he, ((reach_inv s h).held_nil_iff t).1 he⟩

/-- an active locked section holds every lock of the current array, also after it grew the lock array -/
theorem section_holds_everything (s : PS) (h : Reach s) (t : Tid) (ho : (s.th t).owner = true) (i : Nat)
    (hi : i < s.curSize) : s.holder ⟨s.curGen, i⟩ = some t :=
  (reach_inv s h).owner_holds ho hi

/-- arrays appended by an owner are born locked by it -/
theorem appended_array_born_locked (s s' : PS) (t : Tid) (n : Nat) (ha : accept s (.append t n) = some s') :
    s'.gens = s.gens ++ [n] ∧ ∀ i, i < n → s'.holder ⟨s.gens.length, i⟩ = some t := by
  obtain ⟨-, rfl⟩ := accept_append_iff.1 ha
  exact ⟨rfl, fun i hi => if_pos ⟨rfl, hi⟩⟩

/-- after the section's unlock nothing of any array is held by it -/
theorem section_end_releases_all (s s' : PS) (h : Reach s) (t : Tid) (ha : accept s (.sectionEnd t) = some s') :
    ∀ l, s'.holder l ≠ some t := by
  obtain ⟨he, hs⟩ := accept_sectionEnd_iff.1 ha
  rw [hs]; exact ((reach_inv s h).held_nil_iff t).1 he

/- The full termination statement — every fair extension of an accepted trace completes every pending call — needs a
   fairness model and a progress measure for competing displacements; it is not stated as a Lean `Prop` here because
   no proof of it exists yet (see DESIGN.md section 9: C04 is claimed as deadlock freedom + lock hygiene only). -/

/-! non-vacuity: an accepted `lock_all` whose owner appends a lock array of 8 and releases the locks of both arrays -/
example : (run (init 3 4) [.allBegin 0, .acquire 0 ⟨0,0⟩, .acquire 0 ⟨0,1⟩, .acquire 0 ⟨0,2⟩, .acquire 0 ⟨0,3⟩, .allEnd 0,
    .append 0 8, .storeHp 0 4, .bumpRc 0, .release 0 ⟨0,0⟩, .release 0 ⟨0,1⟩, .release 0 ⟨0,2⟩, .release 0 ⟨0,3⟩,
    .release 0 ⟨1,0⟩, .release 0 ⟨1,1⟩, .release 0 ⟨1,2⟩, .release 0 ⟨1,3⟩, .release 0 ⟨1,4⟩, .release 0 ⟨1,5⟩,
    .release 0 ⟨1,6⟩, .release 0 ⟨1,7⟩, .opEnd 0 false]).isSome = true := by decide +kernel
/-- descending order is rejected -/
example : (run (init 3 4) [.allBegin 0, .acquire 0 ⟨0,1⟩, .acquire 0 ⟨0,0⟩]).isSome = false := by decide +kernel

end Cuckoo.Props.C04
