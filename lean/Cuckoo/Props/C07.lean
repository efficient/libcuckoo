import Cuckoo.Props.C02
/-!
# C07 — failures are atomic: a throwing operation leaves the table unchanged and usable

Model-level part.  The executable model raises `bad_alloc` where a bucket array of more than `2^hpLimit` buckets would
be needed (`cuckoo_fast_double`, the temporary map of `cuckoo_expand_simple`), the policy exceptions of C10, and the
exception of a throwing user functor.  For each of these the theorems below give failure atomicity for *every* table
state: same abstract contents, invariant intact (hence usable: C02 applies to whatever follows), hashpower unchanged
for a failed rehash/reserve.

**Partial** (`alloc_failure_atomic_partial`): the other allocation points of the real code (lock vector, list node of
the lock-array list, thread / exception vectors of helper threads), throwing equality, and throwing element
constructors are *not* fault points of the model; they are enumerated on the implementation by K5 (every reachable
allocation index k, forked trials on copies, instrumented element types).  Two findings stay open there (F4: a failed
rebuild leaves moved-from elements for types with a non-trivial moved-from state; F11: copy assignment destroys the
destination first).
-/
namespace Cuckoo.Props.C07
open Cuckoo Cuckoo.Model Cuckoo.Spec
variable {κ ν : Type} [DecidableEq κ]

/-- a failed inserting call (insert / insert_or_assign / upsert / uprase_fn, normal or locked mode) changes nothing
observable and invokes no functor -/
theorem alloc_failure_atomic_partial (c : Cfg κ) (locked : Bool) (t : Table κ ν) (m : AMap κ ν) (k : κ) (v : ν)
    (ctxAware mayErase : Bool) (fn : Ctx → ν → FnOut ν) (h : Inv c t) (hr : Rel c t m) (hl : locked = true → AllMig t)
    (e : Err) (he : (t.uprase c locked k v ctxAware mayErase fn).2.1.res = .err e) (hne : e ≠ .fnThrow) :
    Inv c (t.uprase c locked k v ctxAware mayErase fn).1 ∧ Rel c (t.uprase c locked k v ctxAware mayErase fn).1 m ∧
    (t.uprase c locked k v ctxAware mayErase fn).2.1.calls = [] := by
  obtain ⟨a1, a2, a3, _⟩ := uprase_failed c locked t m k v ctxAware mayErase fn h hr hl e he hne
  exact ⟨a1, a2, a3⟩

/-- a failed rehash leaves contents AND hashpower unchanged -/
theorem failed_rehash_atomic (c : Cfg κ) (locked : Bool) (t : Table κ ν) (m : AMap κ ν) (n : Nat)
    (h : Inv c t) (hr : Rel c t m) (hl : locked = true → AllMig t) (e : Err) (he : (t.rehash c locked n).2 = .err e) :
    Inv c (t.rehash c locked n).1 ∧ Rel c (t.rehash c locked n).1 m ∧ (t.rehash c locked n).1.hp = t.hp := by
  have p := rehash_post c locked t n h hl
  have q := p.res
  rw [he] at q
  exact ⟨p.inv, hr.of_same p.same, q.2⟩

/-- a failed reserve leaves contents AND hashpower unchanged -/
theorem failed_reserve_atomic (c : Cfg κ) (locked : Bool) (t : Table κ ν) (m : AMap κ ν) (n : Nat)
    (h : Inv c t) (hr : Rel c t m) (hl : locked = true → AllMig t) (e : Err) (he : (t.reserve c locked n).2 = .err e) :
    Inv c (t.reserve c locked n).1 ∧ Rel c (t.reserve c locked n).1 m ∧ (t.reserve c locked n).1.hp = t.hp :=
  failed_rehash_atomic c locked t m _ h hr hl e he

/-- the allocation failure of the doubled bucket array is reported as `bad_alloc` and the table keeps its hashpower
(the model performs the allocation before any change, as the repaired `cuckoo_fast_double` does: finding F3) -/
theorem fast_double_alloc_failure (c : Cfg κ) (locked auto : Bool) (fuel : Nat) (t : Table κ ν)
    (hn : c.nothrowMove = true) (hchk : t.checkResize c auto (t.hp + 1) = none) (hlim : t.hp + 1 > c.hpLimit) :
    (fastDouble c locked auto (fuel + 1) t t.hp).2 = .err .badAlloc ∧
    (fastDouble c locked auto (fuel + 1) t t.hp).1 = t.migrateAll c := by
  rw [fastDouble_self c locked auto fuel t hn, hchk]
  rw [if_pos hlim]
  exact ⟨rfl, rfl⟩

/-- if a functor throws, everything done before it was invoked (including the insertion that preceded it) and its own
partial effect remain, and nothing else changes -/
theorem functor_throw_keeps_prior_effects (c : Cfg κ) (locked : Bool) (t : Table κ ν) (m : AMap κ ν) (k : κ) (v v' : ν)
    (mayErase : Bool) (fn : Ctx → ν → FnOut ν) (h : Inv c t) (hr : Rel c t m) (hl : locked = true → AllMig t)
    (hk : m.lookup k = none) (hf : fn .newlyInserted v = .throw v')
    (hres : (t.uprase c locked k v true mayErase fn).2.1.res = .err .fnThrow) :
    Inv c (t.uprase c locked k v true mayErase fn).1 ∧ Rel c (t.uprase c locked k v true mayErase fn).1 (m.add k v') := by
  obtain ⟨a1, _, ⟨e, r1, r2, _⟩ | ⟨_, _, r3⟩⟩ := C02.uprase_refines c locked t m k v true mayErase fn h hr hl
  · rw [hres] at r1
    cases r1
    exact absurd rfl r2.ne_fnThrow
  · rw [C02.upraseSpec_none hk, if_pos rfl, hf] at r3
    exact ⟨a1, r3⟩

/-- a throwing functor of update_fn / erase_fn leaves its partial effect on that one value and nothing else -/
theorem functor_throw_in_update (c : Cfg κ) (canErase : Bool) (t : Table κ ν) (m : AMap κ ν) (k : κ) (v v' : ν)
    (fn : ν → FnOut ν) (h : Inv c t) (hr : Rel c t m) (hk : m.lookup k = some v) (hf : fn v = .throw v') :
    Inv c (t.fnOp c canErase k fn).1 ∧ Rel c (t.fnOp c canErase k fn).1 (m.set k v') ∧
    (t.fnOp c canErase k fn).2.res = .err .fnThrow := by
  obtain ⟨a, r1, _⟩ := fnOp_sim c canErase t m k fn h hr
  have hrel := a.rel
  rw [C02.fnOpSpec_some hk, C02.tailSpec, hf] at hrel r1
  exact ⟨a.inv, hrel, r1⟩

/-- after any failed call every operation, including further failures, works normally: the run continues to refine
the abstract map -/
theorem usable_after_failure (c : Cfg κ) (t : Table κ ν) (m : AMap κ ν) (k : κ) (v : ν)
    (ctxAware mayErase : Bool) (fn : Ctx → ν → FnOut ν) (h : Inv c t) (hr : Rel c t m)
    (e : Err) (he : (t.uprase c false k v ctxAware mayErase fn).2.1.res = .err e) (hne : e ≠ .fnThrow)
    (ops : List (C02.Op κ ν)) :
    ∃ m', C02.specRun false m ops (C02.run c ⟨(t.uprase c false k v ctxAware mayErase fn).1, false⟩ ops).2 m' ∧
      C02.Good c (C02.run c ⟨(t.uprase c false k v ctxAware mayErase fn).1, false⟩ ops).1 m' := by
  obtain ⟨a1, a2, _⟩ := alloc_failure_atomic_partial c false t m k v ctxAware mayErase fn h hr
    (fun x => by cases x) e he hne
  exact C02.seq_refines c ops ⟨(t.uprase c false k v ctxAware mayErase fn).1, false⟩ m
    ⟨a1, a2, fun x => by cases x⟩

end Cuckoo.Props.C07
