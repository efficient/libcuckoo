import Cuckoo.Proofs.ProtoInv
/-!
# C01 — concurrent operations are linearizable, including across every kind of resize (protocol half)

This file carries the *protocol* half of the argument: in every execution that obeys the locking
protocol (`Cuckoo.Proto.accept`; K3 checks on every run that the recorded synchronisation traces of
`/repo` are accepted) a thread that is inside a validated critical section works with the *current*
hashpower and the *current* lock array, for any number of threads, stripes, lock arrays and any schedule.
Together with C03 (`owner_excludes_validated`, disjoint stripes) this is what allows a critical section
to be treated as one atomic step on the current table; the sequential refinement of every critical
section is C02.  The mechanised statement of linearizability over interleaved critical sections is
`Props/C01Conc.lean` (see DESIGN.md section 12 for what is proved there and what is assumed).
-/
namespace Cuckoo.Props.C01
open Cuckoo.Proto

/-- a sound snapshot whose counter is still current has the current hashpower and saw the current lock array,
unless a resizer is between its change and its counter bump -/
theorem snapshot_guarded_by_counter (s : PS) (h : Reach s) (t : Tid)
    (hok : (s.th t).hpOk = true ∧ (s.th t).genOk = true) (hrc : (s.th t).snapRc = s.rc) :
    ((s.th t).snapHp = s.hp ∧ (s.th t).snapGen = s.curGen) ∨ ∃ z, (s.th z).dirty = true := by
  have hi := reach_inv s h
  rcases (hi.thr t).snap_hp hok.1 hrc with h1 | h1
  · rcases (hi.thr t).snap_gen hok.2 hrc with h2 | ⟨z, hz, -⟩
    · exact Or.inl ⟨h1, h2⟩
    · exact Or.inr ⟨z, hz⟩
  · exact Or.inr h1

/-- a thread that has passed validation computed its buckets from the current hashpower
and holds locks of the current lock array only -/
theorem validated_is_current (s : PS) (h : Reach s) (t : Tid) (hv : (s.th t).validated = true) :
    (s.th t).snapHp = s.hp ∧ (s.th t).snapGen = s.curGen ∧ (s.th t).held ≠ [] ∧
    ∀ l ∈ (s.th t).held, l.gen = s.curGen := by
  have hv := ((reach_inv s h).thr t).val hv
  exact ⟨hv.hp, hv.gen, hv.ne, hv.cur⟩

/-- no resizer is between its change of the table and its counter bump while some other thread is validated -/
theorem no_dirty_while_validated (s : PS) (h : Reach s) (t z : Tid) (hv : (s.th t).validated = true)
    (hd : (s.th z).dirty = true) : False := by
  have hi := reach_inv s h
  exact hi.owner_not_val ((hi.thr z).dirty_owner hd) hv

/-- the resize counter never decreases and snapshots never run ahead of it -/
theorem snapshot_le_counter (s : PS) (h : Reach s) (t : Tid) : (s.th t).snapRc ≤ s.rc :=
  ((reach_inv s h).thr t).rc_le

/-- a thread whose snapshot is older than the last completed resize fails validation: after taking its first lock
its counter load does not validate it (it must release and start over) -/
theorem stale_snapshot_fails_validation (s s' : PS) (h : Reach s) (t : Tid) (hp : (s.th t).pendingVal = true)
    (hst : (s.th t).snapRc ≠ s.rc) (ha : accept s (.rcLoad t) = some s') :
    (s'.th t).validated = false ∧ (s'.th t).mustRelease = true := by
  obtain ⟨x', rfl, hx⟩ := accept_rcLoad_iff.1 ha
  dsimp only; rw [upd_same]
  rcases hx with ⟨-, hrc, -⟩ | ⟨-, -, rfl⟩ | ⟨hnp, -⟩
  · exact absurd hrc hst
  · exact ⟨(((reach_inv s h).thr t).pend hp).not_val, rfl⟩
  · rw [hp] at hnp; cases hnp

/-! non-vacuity: an accepted trace in which a reader validates after a resizer has finished -/
example : (run (init 2 2)
    [.allBegin 1, .acquire 1 ⟨0,0⟩, .acquire 1 ⟨0,1⟩, .allEnd 1, .storeHp 1 3, .bumpRc 1, .release 1 ⟨0,0⟩, .release 1 ⟨0,1⟩,
     .opEnd 1 false,
     .rcLoad 0, .hpLoad 0, .genLoad 0, .acquire 0 ⟨0,1⟩, .rcLoad 0, .access 0 1, .release 0 ⟨0,1⟩, .opEnd 0 false]).isSome = true := by
  decide +kernel

/-- the shipped load order (hashpower before counter) is rejected by rule S -/
example : (run (init 2 2) [.hpLoad 0, .rcLoad 0, .genLoad 0, .acquire 0 ⟨0,1⟩]).isSome = false := by
  decide +kernel

end Cuckoo.Props.C01
