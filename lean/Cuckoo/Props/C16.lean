import Cuckoo.Props.C02
/-!
# C16 — arguments are consumed only on success; compatible key types find the same item

The model records in `Out.consumed` whether an inserting call moved its key/value arguments into the table: it does
so exactly when `cuckoo_insert_loop` ended with a free slot (status ok) and `add_to_bucket` ran.  The theorems relate
that flag to the abstract map for **every** table state — whatever internal path was taken before the duplicate was
discovered (lazy migration, displacement, expansion).  K5 observes the same on the implementation with move-tracking
key and value types passed as rvalues (`insmv`, `upsmv`, `ltinsmv`), and checks that lookups, updates and erasures
through a *different* type with consistent hash and equality return the same results without constructing a key_type.
The C++ value-category plumbing (perfect forwarding, `std::piecewise_construct`) itself is not modelled.
-/
namespace Cuckoo.Props.C16
open Cuckoo Cuckoo.Model Cuckoo.Spec
variable {κ ν : Type} [DecidableEq κ]

/-- an insertion-type call that finds the key present leaves its arguments unconsumed -/
theorem duplicate_leaves_args (c : Cfg κ) (locked : Bool) (t : Table κ ν) (m : AMap κ ν) (k : κ) (v old : ν)
    (ctxAware mayErase : Bool) (fn : Ctx → ν → FnOut ν) (h : Inv c t) (hr : Rel c t m) (hl : locked = true → AllMig t)
    (hk : m.lookup k = some old) :
    (t.uprase c locked k v ctxAware mayErase fn).2.1.consumed = false := by
  obtain ⟨_, _, ⟨_, _, _, _, r, _⟩ | ⟨_, _, r, _⟩⟩ := uprase_full c locked t m k v ctxAware mayErase fn h hr hl
  · exact r
  · rw [r, hk]; rfl

/-- a call that fails before inserting (refused or failed expansion) leaves its arguments unconsumed -/
theorem failed_insert_leaves_args (c : Cfg κ) (locked : Bool) (t : Table κ ν) (m : AMap κ ν) (k : κ) (v : ν)
    (ctxAware mayErase : Bool) (fn : Ctx → ν → FnOut ν) (h : Inv c t) (hr : Rel c t m) (hl : locked = true → AllMig t)
    (e : Err) (he : (t.uprase c locked k v ctxAware mayErase fn).2.1.res = .err e) (hne : e ≠ .fnThrow) :
    (t.uprase c locked k v ctxAware mayErase fn).2.1.consumed = false :=
  (uprase_failed c locked t m k v ctxAware mayErase fn h hr hl e he hne).2.2.2

/-- a call that inserts consumes its arguments (once: the flag is set by the single `add_to_bucket`), and the stored
pair is built from exactly those arguments -/
theorem insert_consumes_args (c : Cfg κ) (locked : Bool) (t : Table κ ν) (m : AMap κ ν) (k : κ) (v : ν)
    (h : Inv c t) (hr : Rel c t m) (hl : locked = true → AllMig t) (hk : m.lookup k = none)
    (hok : (t.uprase c locked k v false false (fun _ x => .ret x false)).2.1.res = .ok true) :
    (t.uprase c locked k v false false (fun _ x => .ret x false)).2.1.consumed = true ∧
    Rel c (t.uprase c locked k v false false (fun _ x => .ret x false)).1 (m.add k v) := by
  obtain ⟨_, r3, r4⟩ := uprase_ok c locked t m k v false false (fun _ x => .ret x false) h hr hl true hok
  rw [C02.upraseSpec_none hk] at r4
  exact ⟨r3, r4⟩

/-- consumed iff newly inserted, for every successful call -/
theorem consumed_iff_inserted (c : Cfg κ) (locked : Bool) (t : Table κ ν) (m : AMap κ ν) (k : κ) (v : ν)
    (ctxAware mayErase : Bool) (fn : Ctx → ν → FnOut ν) (h : Inv c t) (hr : Rel c t m) (hl : locked = true → AllMig t)
    (b : Bool) (hok : (t.uprase c locked k v ctxAware mayErase fn).2.1.res = .ok b) :
    (t.uprase c locked k v ctxAware mayErase fn).2.1.consumed = b ∧ b = (m.lookup k).isNone := by
  obtain ⟨hb, r3, _⟩ := uprase_ok c locked t m k v ctxAware mayErase fn h hr hl b hok
  exact ⟨r3, hb⟩

end Cuckoo.Props.C16
