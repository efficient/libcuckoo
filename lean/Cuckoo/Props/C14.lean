import Cuckoo.Model.CFile
import Cuckoo.Gen.CApi
import Cuckoo.Props.C02
import Cuckoo.Proofs.CFileLemmas
/-!
# C14 — the C wrapper behaves exactly like the C++ table it wraps

* **Forwarding**: `Gen/CApi.lean` is regenerated from `libcuckoo-c/cuckoo_table_template.cc` on every run (text scan
  cross-checked against clang's AST).  `capi_forwards` states that every entry point calls exactly the C++ member(s)
  the interface documents for it (the table `spec` below is that documentation, entry by entry); the behaviour of
  those members is C02/C09/C17.  K6 drives all entry points in lock step with a C++ table and compares every return
  value, out-parameter and the contents.
* **File format** (`Model/CFile.lean`, byte level): reading a written file gives back the same pairs; reading
  **every** proper prefix of a written file fails (NULL).
-/
namespace Cuckoo.Props.C14
open Cuckoo Cuckoo.CFile

/-- the documented mapping: entry point ↦ C++ members it must forward to (iterator/box operations forward to nothing).
`_read` builds its table like `_init` (both limits disabled — finding F7, cf. `C15.init_and_read_disable_limits`) and then
inserts the decoded pairs -/
def spec : List (String × List String) := [
  ("_init", ["maximum_hashpower", "minimum_load_factor"]), ("_read", ["insert", "maximum_hashpower", "minimum_load_factor"]), ("_free", []),
  ("_hashpower", ["hashpower"]), ("_bucket_count", ["bucket_count"]), ("_empty", ["empty"]), ("_size", ["size"]),
  ("_capacity", ["capacity"]), ("_load_factor", ["load_factor"]),
  ("_find_fn", ["find_fn"]), ("_update_fn", ["update_fn"]), ("_upsert", ["upsert"]), ("_erase_fn", ["erase_fn"]),
  ("_find", ["find"]), ("_contains", ["contains"]), ("_update", ["update"]), ("_insert", ["insert"]),
  ("_insert_or_assign", ["insert_or_assign"]), ("_erase", ["erase"]), ("_rehash", ["rehash"]), ("_reserve", ["reserve"]),
  ("_clear", ["clear"]), ("_lock_table", []),
  ("_locked_table_free", []), ("_locked_table_unlock", ["unlock"]), ("_locked_table_is_active", ["is_active"]),
  ("_locked_table_hashpower", ["hashpower"]), ("_locked_table_bucket_count", ["bucket_count"]),
  ("_locked_table_empty", ["empty"]), ("_locked_table_size", ["size"]), ("_locked_table_capacity", ["capacity"]),
  ("_locked_table_load_factor", ["load_factor"]),
  ("_locked_table_begin", ["begin"]), ("_locked_table_cbegin", ["cbegin"]), ("_locked_table_end", ["end"]),
  ("_locked_table_cend", ["cend"]), ("_iterator_free", []), ("_const_iterator_free", []),
  ("_locked_table_clear", ["clear"]), ("_locked_table_insert", ["insert"]), ("_locked_table_erase_it", ["erase"]),
  ("_locked_table_erase_const_it", ["erase"]), ("_locked_table_erase", ["erase"]), ("_locked_table_find", ["find"]),
  ("_locked_table_find_const", ["find"]), ("_locked_table_rehash", ["rehash"]), ("_locked_table_reserve", ["reserve"]),
  ("_locked_table_write", ["begin", "end", "size"]),   -- the loop over the elements (a range-based for is begin()/end())
  ("_iterator_set", []), ("_const_iterator_set", []),
  ("_locked_table_set_begin", ["begin"]), ("_locked_table_set_cbegin", ["cbegin"]),
  ("_locked_table_set_end", ["end"]), ("_locked_table_set_cend", ["cend"]),
  ("_iterator_equal", []), ("_const_iterator_equal", []), ("_iterator_key", []), ("_const_iterator_key", []),
  ("_iterator_mapped", []), ("_const_iterator_mapped", []), ("_iterator_increment", []), ("_const_iterator_increment", []),
  ("_iterator_decrement", []), ("_const_iterator_decrement", [])]

/-- every entry point of the current source forwards to exactly the documented members, and there is no undocumented
entry point -/
theorem capi_forwards : Gen.CApi.entries.map (fun e => (e.name, e.members)) = spec := rfl

/-- the writer emits one count and one record per pair, nothing else: the image length is determined by the count -/
theorem write_length (kw vw : Nat) (ps : List (Nat × Nat)) : (write kw vw ps).length = 8 + ps.length * (kw + vw) := by
  unfold write
  rw [List.length_append, encode_length, writePairs_length]

/-- **file round trip**: reading a written file yields the same pairs in the same order (for keys/values that fit their
widths and a count that fits a size_t) -/
theorem file_roundtrip (kw vw : Nat) (ps : List (Nat × Nat)) (hlen : ps.length < 256 ^ 8)
    (hfit : ∀ p ∈ ps, p.1 < 256 ^ kw ∧ p.2 < 256 ^ vw) : read kw vw (write kw vw ps) = some ps := by
  unfold CFile.read write
  rw [take?_append 8 _ _ (encode_length 8 _)]
  simpa only [decode_encode 8 _ hlen, List.append_nil] using readPairs_writePairs kw vw ps [] hfit

/-- **truncation**: reading any proper prefix of a written file fails cleanly (the reader returns NULL) — for every
truncation point of every serialized table -/
theorem truncated_file_rejected (kw vw : Nat) (ps : List (Nat × Nat)) (hlen : ps.length < 256 ^ 8) (hw : 0 < kw + vw)
    (n : Nat) (hn : n < (write kw vw ps).length) : read kw vw ((write kw vw ps).take n) = none := by
  have _ := hw
  rw [write_length] at hn
  apply read_short
  rw [List.length_take, write_length]
  by_cases h8 : n < 8
  · left; omega
  · right
    have e : ((write kw vw ps).take n).take 8 = encode 8 ps.length := by
      rw [List.take_take, Nat.min_eq_left (by omega), write, List.take_left' (encode_length 8 _)]
    rw [e, decode_encode 8 _ hlen]; omega

/-- the table built by the reader from a complete file represents exactly the written pairs: inserting the decoded
pairs one by one into a fresh table (what `_read` does) yields a table whose abstract contents are those pairs, provided
no insertion fails -/
theorem read_builds_same_table [DecidableEq Nat] (c : Model.Cfg Nat) (hS : 0 < c.S) (hM : ∃ j, c.M = 2 ^ j)
    (ps : List (Nat × Nat)) (hnd : (ps.map Prod.fst).Nodup) (n : Nat) :
    let ops : List (C02.Op Nat Nat) := ps.map (fun p => C02.Op.uprase p.1 p.2 false false (fun _ v => .ret v false))
    ∃ m', C02.specRun false [] ops (C02.run c ⟨(Model.Table.init c n : Model.Table Nat Nat), false⟩ ops).2 m' ∧
      C02.Good c (C02.run c ⟨(Model.Table.init c n : Model.Table Nat Nat), false⟩ ops).1 m' :=
  C02.seq_refines_from_init c n hS hM _

/-! non-vacuity -/
example : read 4 4 (write 4 4 [(1, 10), (70000, 20)]) = some [(1, 10), (70000, 20)] := by decide +kernel
example : read 4 4 ((write 4 4 [(1, 10), (70000, 20)]).take 23) = none := by decide +kernel

end Cuckoo.Props.C14
