import Cuckoo.Props.C01
/-!
# C06 — an active locked_table owns the table exclusively and hands it back intact (protocol part)

A locked section is the span during which its thread is `owner` in the protocol model (from the end of
`lock_all` to its first release).  During that span no other thread is validated, can become validated, or can
touch a bucket; every change of the table's shape inside the section (growth, shrinking, stream extraction) must
be followed by a counter bump before the first release, so every operation parked on a lock fails its validation
afterwards and restarts from the state the section left.  The sequential content of the section (it finishes the
pending migration on creation, its operations refine the map) is C02 (`lockTable_refines`, `ltInsert_refines`, …)
and C12 for stream extraction.
-/
namespace Cuckoo.Props.C06
open Cuckoo.Proto

/-- while a section is active nobody else is inside a validated critical section -/
theorem section_excludes_others (s : PS) (h : Reach s) (z t : Tid) (hz : (s.th z).owner = true) (hne : t ≠ z) :
    (s.th t).validated = false :=
  Bool.eq_false_iff.2 ((reach_inv s h).owner_not_val hz)

/-- and nobody else can pass validation while it is active: a counter load of another thread never validates it -/
theorem no_validation_during_section (s s' : PS) (h : Reach s) (z t : Tid) (hz : (s.th z).owner = true) (hne : t ≠ z)
    (ha : accept s (.rcLoad t) = some s') : (s'.th t).validated = false := by
  have hi := reach_inv s h
  obtain ⟨x', rfl, hx⟩ := accept_rcLoad_iff.1 ha
  dsimp only; rw [upd_same]
  rcases hx with ⟨hp, hrc, -⟩ | ⟨hp, -, rfl⟩ | ⟨-, rfl⟩
  · exact (hi.owner_not_pend hz hp hrc).elim
  · exact ((hi.thr t).pend hp).not_val
  · exact section_excludes_others s h z t hz hne

/-- the owner cannot give up a lock between a change of the table's shape and the counter bump -/
theorem no_release_while_dirty (s : PS) (t : Tid) (l : LockId) (hd : (s.th t).dirty = true) :
    accept s (.release t l) = none := by
  cases hr : accept s (.release t l) with
  | none => rfl
  | some s' => have := (accept_release_iff.1 hr).2.1; rw [hd] at this; cases this

/-- hence an operation that took its snapshot before the section's last resize re-validates and restarts:
its snapshot counter differs from the current one once the section has released anything -/
theorem parked_ops_revalidate (s s' : PS) (h : Reach s) (t : Tid) (hp : (s.th t).pendingVal = true) (hold : (s.th t).snapRc < s.rc)
    (ha : accept s (.rcLoad t) = some s') : (s'.th t).mustRelease = true ∧ (s'.th t).validated = false :=
  (C01.stale_snapshot_fails_validation s s' h t hp (Nat.ne_of_lt hold) ha).symm

/-- growth inside the section never releases ownership: after appending an array the owner still owns the table -/
theorem growth_keeps_ownership (s s' : PS) (h : Reach s) (t : Tid) (n : Nat) (ha : accept s (.append t n) = some s') :
    (s'.th t).owner = true ∧ s'.holdsAllCur t = true := by
  obtain ⟨⟨ho, hn⟩, rfl⟩ := accept_append_iff.1 ha
  have hi' := inv_appSt (reach_inv s h) t n ho hn
  have ho' : ((appSt s t n).th t).owner = true := by rw [appSt_th_same]; exact ho
  exact ⟨ho', (holdsGen_cur_iff _ hi'.gens_ne t).1 ((hi'.thr t).owner_all ho').1⟩

/-- only an owner changes the hashpower, the bucket array or the lock arrays -/
theorem only_owner_resizes (s s' : PS) (t : Tid) (e : Ev)
    (he : (∃ v, e = .storeHp t v) ∨ (∃ n, e = .append t n) ∨ e = .bumpRc t) (ha : accept s e = some s') :
    (s.th t).owner = true := by
  rcases he with ⟨v, rfl⟩ | ⟨n, rfl⟩ | rfl
  · exact (accept_storeHp_iff.1 ha).1
  · exact (accept_append_iff.1 ha).1.1
  · exact (accept_bumpRc_iff.1 ha).1

/-! non-vacuity: a section that grows the lock array, resizes, bumps and releases; the parked reader restarts -/
example : (run (init 1 2)
    [.rcLoad 1, .hpLoad 1, .genLoad 1,
     .allBegin 0, .acquire 0 ⟨0,0⟩, .acquire 0 ⟨0,1⟩, .allEnd 0, .append 0 4, .storeHp 0 2, .bumpRc 0,
     .release 0 ⟨0,0⟩, .release 0 ⟨0,1⟩, .release 0 ⟨1,0⟩, .release 0 ⟨1,1⟩, .release 0 ⟨1,2⟩, .release 0 ⟨1,3⟩, .sectionEnd 0,
     .acquire 1 ⟨0,1⟩, .rcLoad 1, .release 1 ⟨0,1⟩]).isSome = true := by decide +kernel
/-- a section that replaces the table without advancing the counter cannot release (finding F2) -/
example : (run (init 1 2)
    [.allBegin 0, .acquire 0 ⟨0,0⟩, .acquire 0 ⟨0,1⟩, .allEnd 0, .storeHp 0 2, .release 0 ⟨0,0⟩]).isSome = false := by decide +kernel

end Cuckoo.Props.C06
