import Cuckoo.Props.C02
/-!
# C10 — resize limits and explicit resize requests are honoured exactly

Decision logic of the setters and of `check_resize_validity`, stated on the executable model
(`Cuckoo/Model`), whose correspondence with `/repo` is checked by K2 on every run.
`hashpower() ≤ maximum_hashpower()` after any operation sequence follows from the refinement theorem of C02; that
rehash/reserve leave the contents unchanged whatever their outcome, and how large the table is afterwards, is read off
`rehash_post` (`Proofs/Resize.lean`).
-/
namespace Cuckoo.Props.C10
open Cuckoo Cuckoo.Model
variable {κ ν : Type}

/-- a minimum load factor outside [0,1] is rejected with `invalid_argument` and has no effect -/
theorem setMlf_rejects (t : Table κ ν) (x : Float) (h : (x < 0.0) = true ∨ (x > 1.0) = true) :
    t.setMlf x = (t, .err .invalidArg) := by
  unfold Table.setMlf
  rcases h with h | h
  · simp [h]
  · by_cases h0 : x < 0.0 <;> simp [h0, h]

/-- an in-domain minimum load factor is stored and nothing else changes -/
theorem setMlf_accepts (t : Table κ ν) (x : Float) (h0 : (x < 0.0) = false) (h1 : (x > 1.0) = false) :
    t.setMlf x = ({ t with mlf := x }, .ok ()) := by
  unfold Table.setMlf; simp [h0, h1]

/-- a maximum below the current hashpower is rejected with `invalid_argument` and has no effect -/
theorem setMhp_rejects (t : Table κ ν) (m : Nat) (h : m < t.hp) : t.setMhp m = (t, .err .invalidArg) := by
  unfold Table.setMhp; simp [h]

theorem setMhp_accepts (t : Table κ ν) (m : Nat) (h : t.hp ≤ m) :
    t.setMhp m = ({ t with mhp := m }, .ok ()) := by
  unfold Table.setMhp
  have : ¬ t.hp > m := by omega
  simp [this]

/-- an accepted maximum keeps the invariant clause `hp ≤ mhp` -/
theorem setMhp_limit (t : Table κ ν) (m : Nat) (t' : Table κ ν) (h : t.setMhp m = (t', .ok ())) :
    t'.mhp = m ∧ t'.hp ≤ t'.mhp := by
  rcases Nat.lt_or_ge m t.hp with hlt | hge
  · rw [setMhp_rejects t m hlt] at h; cases h
  · rw [setMhp_accepts t m hge] at h; cases h; exact ⟨rfl, hge⟩

theorem within_limit {t : Table κ ν} {newHp : Nat} (hm : t.mhp = noMaxHp ∨ newHp ≤ t.mhp) :
    ¬ (t.mhp ≠ noMaxHp ∧ newHp > t.mhp) :=
  fun ⟨h1, h2⟩ => hm.elim h1 (Nat.not_le_of_gt h2)

/-- `check_resize_validity`: a resize beyond a configured maximum is refused with
`maximum_hashpower_exceeded`, whatever the kind of resize -/
theorem checkResize_maxhp (c : Cfg κ) (t : Table κ ν) (auto : Bool) (newHp : Nat)
    (hm : t.mhp ≠ noMaxHp) (h : t.mhp < newHp) : t.checkResize c auto newHp = some .maxHpExceeded := by
  unfold Table.checkResize
  simp [hm, h]

/-- an *automatic* expansion below the minimum load factor is refused with `load_factor_too_low` -/
theorem checkResize_lftl (c : Cfg κ) (t : Table κ ν) (newHp : Nat)
    (hm : t.mhp = noMaxHp ∨ newHp ≤ t.mhp) (hl : t.lfBelow c = true) :
    t.checkResize c true newHp = some .loadFactorTooLow := by
  unfold Table.checkResize
  simp [within_limit hm, hl]

/-- an *explicit* resize never consults the load factor -/
theorem checkResize_manual_never_lftl (c : Cfg κ) (t : Table κ ν) (newHp : Nat) :
    t.checkResize c false newHp ≠ some .loadFactorTooLow := by
  unfold Table.checkResize
  split
  · simp
  · simp

/-- and a permitted resize passes -/
theorem checkResize_ok (c : Cfg κ) (t : Table κ ν) (auto : Bool) (newHp : Nat)
    (hm : t.mhp = noMaxHp ∨ newHp ≤ t.mhp) (hl : auto = false ∨ t.lfBelow c = false) :
    t.checkResize c auto newHp = none := by
  unfold Table.checkResize
  rcases hl with h | h <;> simp [within_limit hm, h]

theorem fastDouble_refused_unchanged [DecidableEq κ] (c : Cfg κ) (locked auto : Bool) (fuel : Nat) (t : Table κ ν)
    (e : Err) (hn : c.nothrowMove = true) (h : t.checkResize c auto (t.hp + 1) = some e) :
    fastDouble c locked auto (fuel + 1) t t.hp = (t, .err e) := by
  rw [fastDouble_self c locked auto fuel t hn, h]

/-- a refused rebuild (rehash / reserve / automatic expansion of a non-nothrow-movable type) changes nothing -/
theorem expandSimple_refused_unchanged [DecidableEq κ] (c : Cfg κ) (locked auto : Bool) (fuel : Nat) (t : Table κ ν)
    (e : Err) (n : Nat) (h : t.checkResize c auto n = some e) :
    expandSimple c locked auto (fuel + 1) t n = (t, .err e) := by
  rw [expandSimple_succ, h]

/-- `rehash(n)` with the current hashpower is a no-op that reports `false` -/
theorem rehash_same_noop [DecidableEq κ] (c : Cfg κ) (locked : Bool) (t : Table κ ν) :
    t.rehash c locked t.hp = (t, .ok false) := by
  unfold Table.rehash; simp

/-- **hashpower() never exceeds a configured maximum**: after any sequence of operations from any good state
(in particular from a fresh table), in normal and locked mode -/
theorem hp_never_exceeds_limit [DecidableEq κ] (c : Cfg κ) (ops : List (C02.Op κ ν)) (s : C02.MT κ ν) (m : Spec.AMap κ ν)
    (hg : C02.Good c s m) :
    (C02.run c s ops).1.t.mhp = noMaxHp ∨ (C02.run c s ops).1.t.hp ≤ (C02.run c s ops).1.t.mhp := by
  obtain ⟨m', _, hg'⟩ := C02.seq_refines c ops s m hg
  exact hg'.1.limit

/-- `rehash(n)` / `reserve(n)` leave the contents unchanged whether they succeed or fail, and can only fail with
maximum_hashpower_exceeded or an allocation failure — never with load_factor_too_low (`ResizeErr` lists it only
for automatic expansion; see `checkResize_manual_never_lftl` and the repaired temporary-map policy, finding F5) -/
theorem rehash_keeps_contents [DecidableEq κ] (c : Cfg κ) (locked : Bool) (t : Table κ ν) (m : Spec.AMap κ ν) (n : Nat)
    (h : Inv c t) (hr : Rel c t m) (hl : locked = true → AllMig t) :
    Inv c (t.rehash c locked n).1 ∧ Rel c (t.rehash c locked n).1 m :=
  have p := rehash_post c locked t n h hl
  ⟨p.inv, hr.of_same p.same⟩

theorem reserve_keeps_contents [DecidableEq κ] (c : Cfg κ) (locked : Bool) (t : Table κ ν) (m : Spec.AMap κ ν) (n : Nat)
    (h : Inv c t) (hr : Rel c t m) (hl : locked = true → AllMig t) :
    Inv c (t.reserve c locked n).1 ∧ Rel c (t.reserve c locked n).1 m :=
  rehash_keeps_contents c locked t m _ h hr hl

/-! non-vacuity -/
example : (Table.init (κ := Nat) (ν := Nat) { S := 4, M := 4, hash := id, simple := true, nothrowMove := true, hpLimit := 20 } 16).hp = 2 := by
  decide

/-! ### the table is at least as large as requested

`Spec.reserveCalc` (the model of `reserve_calc`, which sizes every freshly constructed table, in particular the temporary
map of `cuckoo_expand_simple`) searches 66 steps and therefore saturates at hashpower 66; real hashpowers are below 64
(`size_t`).  The statements below carry the corresponding range hypothesis (`n ≤ 66`, resp. a request that
`reserve_calc` can represent, resp. `t.hp ≤ 66`): without it they are false in the model for allocation limits
`c.hpLimit > 66`. -/

/-- after `rehash(n)` returned (normally), the hashpower is at least `n` — whether the request grew the table, shrank it
(the rebuild grows again if the contents need more), or was a no-op -/
theorem rehash_at_least [DecidableEq κ] (c : Cfg κ) (locked : Bool) (t : Table κ ν) (n : Nat) (h : Inv c t) (b : Bool)
    (hn : n ≤ 66)
    (hok : (t.rehash c locked n).2 = .ok b) : n ≤ (t.rehash c locked n).1.hp := by
  have q := (rehash_post c false t n h nofun).res
  rw [← rehash_mode c locked, hok] at q
  exact Nat.le_trans (Nat.le_min.mpr ⟨Nat.le_refl n, hn⟩) q

/-- after `reserve(n)` returned (normally), the capacity is at least `n` (for every request `n` whose bucket count
`reserve_calc` can represent — in particular every `size_t`) -/
theorem reserve_at_least [DecidableEq κ] (c : Cfg κ) (locked : Bool) (t : Table κ ν) (n : Nat) (h : Inv c t) (b : Bool)
    (hn : (n + c.S - 1) / c.S ≤ 2 ^ 66)
    (hok : (t.reserve c locked n).2 = .ok b) : n ≤ (t.reserve c locked n).1.capacity c := by
  have hen := Spec.reserveCalc_enough c.S n h.S_pos hn
  have key : Spec.reserveCalc c.S n ≤ (t.reserve c locked n).1.hp :=
    rehash_at_least c locked t _ h b (Spec.reserveCalc_le_66 _ _) hok
  exact Nat.le_trans hen (Nat.mul_le_mul_right _ (Nat.pow_le_pow_right (by decide) key))

/-- and the returned flag says whether the hashpower changed: `false` exactly when the request equals the current size -/
theorem rehash_flag [DecidableEq κ] (c : Cfg κ) (locked : Bool) (t : Table κ ν) (n : Nat) (b : Bool)
    (hok : (t.rehash c locked n).2 = .ok b) : b = decide (n ≠ t.hp) := by
  unfold Table.rehash at hok
  split at hok
  · rename_i heq
    cases hok
    simp [heq]
  · rename_i hne
    obtain ⟨rfl, _⟩ := expandSimple_cases c locked false _ t n (r := (_, .ok b)) (Prod.ext rfl hok)
    exact (decide_eq_true hne).symm

/-- the hashpower never decreases while elements are inserted (automatic expansion only grows the table) -/
theorem insert_never_shrinks [DecidableEq κ] (c : Cfg κ) (t : Table κ ν) (k : κ) (v : ν) (ctxAware mayErase : Bool)
    (fn : Ctx → ν → FnOut ν) (h : Inv c t) (hhp : t.hp ≤ 66) :
    t.hp ≤ (t.uprase c false k v ctxAware mayErase fn).1.hp := by
  rw [uprase_hp]
  exact Nat.le_trans (Nat.le_min.mpr ⟨Nat.le_refl _, hhp⟩) (insertLoop_post c false _ t k h (nomatch ·)).res.1

end Cuckoo.Props.C10
