import Cuckoo.Proofs.Ops
import Cuckoo.Proofs.Iter
/-!
# C02 — sequential behaviour refines an associative map through every resize path

`Rel c t m` : the table `t` represents the association list `m` (unique keys); `Inv c t` : the table
invariant.  Every public operation of the executable model, started from *any* state with `Inv` and
`Rel` (so: after any history, in any layout, with any pending deferred migration, for any hash
function `c.hash`, any slots-per-bucket `c.S > 0`, any power-of-two stripe limit `c.M`), returns what
the abstract map returns and ends in a state that again satisfies `Inv` and represents the updated
map.  An inserting / resizing call may instead end with one of the permitted failures
(`ResizeErr`: load factor too low, maximum hashpower exceeded, allocation failure) and then the map
is unchanged.  `seq_refines` lifts this to every finite operation sequence.
-/
namespace Cuckoo.Props.C02
open Cuckoo Cuckoo.Model Cuckoo.Spec
variable {κ ν : Type} [DecidableEq κ]

/-- a freshly constructed table is well formed and empty, for any initial capacity -/
theorem init_refines (c : Cfg κ) (n : Nat) (hS : 0 < c.S) (hM : ∃ m, c.M = 2 ^ m) :
    Inv c (Table.init c n : Table κ ν) ∧ Rel c (Table.init c n : Table κ ν) [] := by
  have e : Rz.Empty c (Table.init c n : Table κ ν) := Rz.init_spec c n 0 defaultMlf noMaxHp hS hM (.inl rfl)
  exact ⟨e.inv, e.rel⟩

/-- `find_fn` / `update_fn` / `erase_fn` (hence `find`, `contains`, `update`, `erase`): found iff
present; the functor sees the stored value; its effect (new value, erasure) is exactly what is applied -/
theorem fnOp_refines (c : Cfg κ) (canErase : Bool) (t : Table κ ν) (m : AMap κ ν) (k : κ) (fn : ν → FnOut ν)
    (h : Inv c t) (hr : Rel c t m) :
    Inv c (t.fnOp c canErase k fn).1 ∧
    match m.lookup k with
    | none => (t.fnOp c canErase k fn).2.res = .ok false ∧ (t.fnOp c canErase k fn).2.calls = [] ∧
        Rel c (t.fnOp c canErase k fn).1 m
    | some v =>
      (t.fnOp c canErase k fn).2.calls = [⟨none, v⟩] ∧
      match fn v with
      | .ret v' er => (t.fnOp c canErase k fn).2.res = .ok true ∧
          Rel c (t.fnOp c canErase k fn).1 (if canErase && er then m.erase k else m.set k v')
      | .throw v' => (t.fnOp c canErase k fn).2.res = .err .fnThrow ∧ Rel c (t.fnOp c canErase k fn).1 (m.set k v') := by
  obtain ⟨a, r1, r2⟩ := fnOp_sim c canErase t m k fn h hr
  have hrel := a.rel
  unfold fnOpSpec tailSpec at r1 r2 hrel
  refine ⟨a.inv, ?_⟩
  generalize m.lookup k = l at r1 r2 hrel ⊢
  cases l with
  | none => exact ⟨r1, r2, hrel⟩
  | some v =>
    dsimp only at r1 r2 hrel ⊢
    generalize fn v = x at r1 r2 hrel ⊢
    cases x <;> exact ⟨r2, r1, hrel⟩

/-- `find(key)` returning the value -/
theorem findVal_refines (c : Cfg κ) (t : Table κ ν) (m : AMap κ ν) (k : κ) (h : Inv c t) (hr : Rel c t m) :
    Inv c (t.findVal c k).1 ∧ Rel c (t.findVal c k).1 m ∧
    (t.findVal c k).2 = (match m.lookup k with | some v => .ok v | none => .err .outOfRange) := by
  unfold Table.findVal
  rcases hloc : t.locate c false k with ⟨t1, pos⟩
  obtain ⟨a, a4⟩ := locate_sim c false t m k h hr nofun hloc
  rcases pos with _ | ⟨b, s⟩
  · rw [a4]
    exact ⟨a.inv, a.rel, rfl⟩
  · obtain ⟨sl, hg, _, hlook⟩ := a4
    dsimp only
    rw [hg, hlook]
    exact ⟨a.inv, a.rel, rfl⟩

/-- the inserting operations, in normal mode (`locked = false`) and inside a locked table -/
theorem uprase_refines (c : Cfg κ) (locked : Bool) (t : Table κ ν) (m : AMap κ ν) (k : κ) (v : ν)
    (ctxAware mayErase : Bool) (fn : Ctx → ν → FnOut ν)
    (h : Inv c t) (hr : Rel c t m) (hl : locked = true → AllMig t) :
    Inv c (t.uprase c locked k v ctxAware mayErase fn).1 ∧
    (locked = true → AllMig (t.uprase c locked k v ctxAware mayErase fn).1) ∧
    ((∃ e, (t.uprase c locked k v ctxAware mayErase fn).2.1.res = .err e ∧ ResizeErr e ∧
          (t.uprase c locked k v ctxAware mayErase fn).2.1.calls = [] ∧
          Rel c (t.uprase c locked k v ctxAware mayErase fn).1 m) ∨
     ((t.uprase c locked k v ctxAware mayErase fn).2.1.res = (upraseSpec m k v ctxAware mayErase fn).1 ∧
      (t.uprase c locked k v ctxAware mayErase fn).2.1.calls = (upraseSpec m k v ctxAware mayErase fn).2.1 ∧
      Rel c (t.uprase c locked k v ctxAware mayErase fn).1 (upraseSpec m k v ctxAware mayErase fn).2.2)) := by
  obtain ⟨a1, a2, a3⟩ := uprase_full c locked t m k v ctxAware mayErase fn h hr hl
  refine ⟨a1, a2, a3.imp ?_ ?_⟩
  · rintro ⟨e, r1, r2, r3, _, r5⟩
    exact ⟨e, r1, r2, r3, r5⟩
  · rintro ⟨r1, r2, _, r4⟩
    exact ⟨r1, r2, r4⟩

/-- `rehash(n)`: contents unchanged whatever happens -/
theorem rehash_refines (c : Cfg κ) (locked : Bool) (t : Table κ ν) (m : AMap κ ν) (n : Nat)
    (h : Inv c t) (hr : Rel c t m) (hl : locked = true → AllMig t) :
    Inv c (t.rehash c locked n).1 ∧ Rel c (t.rehash c locked n).1 m ∧
    (locked = true → AllMig (t.rehash c locked n).1) ∧
    (match (t.rehash c locked n).2 with | .ok _ => True | .err e => ResizeErr e) := by
  have p := rehash_post c locked t n h hl
  refine ⟨p.inv, hr.of_same p.same, p.allmig, ?_⟩
  have q := p.res
  generalize (t.rehash c locked n).2 = r at q ⊢
  cases r with
  | ok b => trivial
  | err e => exact q.1

/-- `reserve(n)`: contents unchanged whatever happens -/
theorem reserve_refines (c : Cfg κ) (locked : Bool) (t : Table κ ν) (m : AMap κ ν) (n : Nat)
    (h : Inv c t) (hr : Rel c t m) (hl : locked = true → AllMig t) :
    Inv c (t.reserve c locked n).1 ∧ Rel c (t.reserve c locked n).1 m ∧
    (locked = true → AllMig (t.reserve c locked n).1) ∧
    (match (t.reserve c locked n).2 with | .ok _ => True | .err e => ResizeErr e) := by
  rw [reserve_eq_rehash]
  exact rehash_refines c locked t m (Spec.reserveCalc c.S n) h hr hl

/-- `clear()` -/
theorem clear_refines (c : Cfg κ) (t : Table κ ν) (m : AMap κ ν) (h : Inv c t) (hr : Rel c t m) :
    Inv c (t.clear c) ∧ Rel c (t.clear c) [] ∧ AllMig (t.clear c) := by
  have e := clear_spec c t h
  exact ⟨e.inv, e.rel, e.allmig⟩

/-- `lock_table()`: same contents, every pending migration finished -/
theorem lockTable_refines (c : Cfg κ) (t : Table κ ν) (m : AMap κ ν) (h : Inv c t) (hr : Rel c t m) :
    Inv c (t.lockTable c) ∧ Rel c (t.lockTable c) m ∧ AllMig (t.lockTable c) ∧ (t.lockTable c).old = none := by
  have a := migrateAll_spec c t h
  exact ⟨a.inv, hr.of_same a.same, a.allmig, a.old⟩

/-- the setters do not touch the contents -/
theorem setMlf_refines (c : Cfg κ) (t : Table κ ν) (m : AMap κ ν) (x : Float) (h : Inv c t) (hr : Rel c t m) :
    Inv c (t.setMlf x).1 ∧ Rel c (t.setMlf x).1 m :=
  ⟨(setMlf_spec c t m x h hr).1, (setMlf_spec c t m x h hr).2.1⟩

theorem setMhp_refines (c : Cfg κ) (t : Table κ ν) (m : AMap κ ν) (x : Nat) (h : Inv c t) (hr : Rel c t m) :
    Inv c (t.setMhp x).1 ∧ Rel c (t.setMhp x).1 m :=
  ⟨(setMhp_spec c t m x h hr).1, (setMhp_spec c t m x h hr).2.1⟩

/-- `locked_table::erase(key)` -/
theorem ltErase_refines (c : Cfg κ) (t : Table κ ν) (m : AMap κ ν) (k : κ) (h : Inv c t) (hr : Rel c t m)
    (hl : AllMig t) :
    Inv c (t.ltErase c k).1 ∧ AllMig (t.ltErase c k).1 ∧ Rel c (t.ltErase c k).1 (m.erase k) ∧
    (t.ltErase c k).2 = (match m.lookup k with | some _ => 1 | none => 0) := by
  have a4 := (locate_sim c true t m k h hr (fun _ => hl) (t1 := t) (pos := (t.locate c true k).2) rfl).2
  unfold Table.ltErase
  generalize (t.locate c true k).2 = r at a4 ⊢
  obtain _ | ⟨b, s⟩ := r
  · rw [a4, AMap.erase_of_lookup_none m k a4]
    exact ⟨h, hl, hr, rfl⟩
  · obtain ⟨sl, hg, hk, hlook⟩ := a4
    have d := delFrom_sim c t m b s sl h hr hg
    rw [hlook, ← hk]
    exact ⟨d.inv, d.keeps.allmig hl, d.rel, rfl⟩

/-- `locked_table::insert(key, val)`: inserts iff absent; the returned position holds the key with its
(new or previous) value -/
theorem ltInsert_refines (c : Cfg κ) (t : Table κ ν) (m : AMap κ ν) (k : κ) (v : ν) (h : Inv c t) (hr : Rel c t m)
    (hl : AllMig t) :
    Inv c (t.ltInsert c k v).1 ∧ AllMig (t.ltInsert c k v).1 ∧
    match (t.ltInsert c k v).2 with
    | .err e => ResizeErr e ∧ Rel c (t.ltInsert c k v).1 m
    | .ok (p, inserted) =>
      inserted = (m.lookup k).isNone ∧
      Rel c (t.ltInsert c k v).1 (if inserted then m.add k v else m) ∧
      ∃ sl, (t.ltInsert c k v).1.cur.get c.S p.1 p.2 = some sl ∧ sl.key = k ∧
        sl.val = (match m.lookup k with | some old => old | none => v) := by
  have p := insertLoop_post c true (c.fuel t.cur.cells.size) t k h (fun _ => hl)
  have hr1 := hr.of_same p.same
  unfold Table.ltInsert
  generalize insertLoop c true (c.fuel t.cur.cells.size) t k = r at p hr1 ⊢
  obtain ⟨t1, (⟨b, s⟩ | ⟨b, s⟩) | e⟩ := r
  · obtain ⟨d, b4, b5⟩ := addTo_sim c t1 m b s k v p.inv hr1 p.res.2
    dsimp only
    rw [Store.itAt_occ _ d.inv.cur_wf.size b4, b5]
    exact ⟨d.inv, d.keeps.allmig (p.allmig rfl), rfl, d.rel, _, b4, rfl, rfl⟩
  · obtain ⟨_, sl, hg, hk⟩ := p.res.2
    have hlook := rel_lookup_of_live hr1 ⟨.cur b s, hg⟩
    dsimp only at hg ⊢
    rw [Store.itAt_occ _ p.inv.cur_wf.size hg, ← hk, hlook]
    exact ⟨p.inv, p.allmig rfl, rfl, hr1, sl, hg, rfl, rfl⟩
  · exact ⟨p.inv, p.allmig rfl, p.res.2, hr1⟩

/-- the operations of the public API (the named C++ members are instances: `find`, `contains`, `update`,
`erase` are `fnOp`; `insert`, `insert_or_assign`, `upsert`, `uprase_fn` are `uprase`) -/
inductive Op (κ ν : Type)
  | fnOp (canErase : Bool) (k : κ) (fn : ν → FnOut ν)
  | findVal (k : κ)
  | uprase (k : κ) (v : ν) (ctxAware mayErase : Bool) (fn : Ctx → ν → FnOut ν)
  | rehash (n : Nat)
  | reserve (n : Nat)
  | clear
  | setMlf (x : Float)
  | setMhp (x : Nat)
  | lockTable      -- start of a locked section
  | unlock         -- end of it
  | ltErase (k : κ)
  | ltInsert (k : κ) (v : ν)

inductive Obs (ν : Type)
  | bool (r : Res Bool) (calls : List (Call ν))
  | val (r : Res ν)
  | unit (r : Res Unit)
  | count (n : Nat)
  | ins (r : Res Bool)

/-- a table together with the mode it is in -/
structure MT (κ ν : Type) where
  t : Table κ ν
  locked : Bool

/-- one call on the executable model; an operation that is not available in the current mode is a no-op -/
def step (c : Cfg κ) (s : MT κ ν) : Op κ ν → MT κ ν × Obs ν
  | .fnOp ce k fn => if s.locked then (s, .unit (.ok ())) else
      let r := s.t.fnOp c ce k fn; ({ s with t := r.1 }, .bool r.2.res r.2.calls)
  | .findVal k => if s.locked then (s, .unit (.ok ())) else
      let r := s.t.findVal c k; ({ s with t := r.1 }, .val r.2)
  | .uprase k v ca me fn => if s.locked then (s, .unit (.ok ())) else
      let r := s.t.uprase c false k v ca me fn; ({ s with t := r.1 }, .bool r.2.1.res r.2.1.calls)
  | .rehash n => let r := s.t.rehash c s.locked n; ({ s with t := r.1 }, .ins r.2)
  | .reserve n => let r := s.t.reserve c s.locked n; ({ s with t := r.1 }, .ins r.2)
  | .clear => ({ s with t := s.t.clear c }, .unit (.ok ()))
  | .setMlf x => let r := s.t.setMlf x; ({ s with t := r.1 }, .unit r.2)
  | .setMhp x => let r := s.t.setMhp x; ({ s with t := r.1 }, .unit r.2)
  | .lockTable => if s.locked then (s, .unit (.ok ())) else ({ t := s.t.lockTable c, locked := true }, .unit (.ok ()))
  | .unlock => ({ s with locked := false }, .unit (.ok ()))
  | .ltErase k => if s.locked then let r := s.t.ltErase c k; ({ s with t := r.1 }, .count r.2) else (s, .unit (.ok ()))
  | .ltInsert k v => if s.locked then
      let r := s.t.ltInsert c k v
      ({ s with t := r.1 }, .ins (match r.2 with | .ok (_, b) => .ok b | .err e => .err e))
    else (s, .unit (.ok ()))

/-- what the abstract map allows for one call: the observation and the next map.  `locked` is the mode. -/
def specStep (locked : Bool) (m : AMap κ ν) (op : Op κ ν) (o : Obs ν) (m' : AMap κ ν) : Prop :=
  match op with
  | .fnOp ce k fn => if locked then (o = .unit (.ok ()) ∧ m' = m) else
      match m.lookup k with
      | none => o = .bool (.ok false) [] ∧ m' = m
      | some v =>
        match fn v with
        | .ret v' er => o = .bool (.ok true) [⟨none, v⟩] ∧ m' = (if ce && er then m.erase k else m.set k v')
        | .throw v' => o = .bool (.err .fnThrow) [⟨none, v⟩] ∧ m' = m.set k v'
  | .findVal k => if locked then (o = .unit (.ok ()) ∧ m' = m) else
      o = .val (match m.lookup k with | some v => .ok v | none => .err .outOfRange) ∧ m' = m
  | .uprase k v ca me fn => if locked then (o = .unit (.ok ()) ∧ m' = m) else
      (∃ e, ResizeErr e ∧ o = .bool (.err e) [] ∧ m' = m) ∨
      (o = .bool (upraseSpec m k v ca me fn).1 (upraseSpec m k v ca me fn).2.1 ∧ m' = (upraseSpec m k v ca me fn).2.2)
  | .rehash _ | .reserve _ => m' = m ∧ ∃ r, o = .ins r ∧ (match r with | .ok _ => True | .err e => ResizeErr e)
  | .clear => o = .unit (.ok ()) ∧ m' = []
  | .setMlf _ | .setMhp _ => m' = m ∧ ∃ r, o = .unit r
  | .lockTable | .unlock => o = .unit (.ok ()) ∧ m' = m
  | .ltErase k => if locked then (o = .count (match m.lookup k with | some _ => 1 | none => 0) ∧ m' = m.erase k)
      else (o = .unit (.ok ()) ∧ m' = m)
  | .ltInsert k v => if locked then
      ((∃ e, ResizeErr e ∧ o = .ins (.err e) ∧ m' = m) ∨
       (o = .ins (.ok (m.lookup k).isNone) ∧ m' = (if (m.lookup k).isNone then m.add k v else m)))
    else (o = .unit (.ok ()) ∧ m' = m)

/-- the state invariant of a sequential run: `Inv`, and inside a locked section everything migrated -/
def Good (c : Cfg κ) (s : MT κ ν) (m : AMap κ ν) : Prop :=
  Inv c s.t ∧ Rel c s.t m ∧ (s.locked = true → AllMig s.t)

/-- the clause of `specStep` for `find_fn` / `update_fn` / `erase_fn` is the function `fnOpSpec` -/
theorem specStep_fnOp (m : AMap κ ν) (ce : Bool) (k : κ) (fn : ν → FnOut ν) :
    specStep false m (.fnOp ce k fn) (.bool (fnOpSpec m ce k fn).1 (fnOpSpec m ce k fn).2.1) (fnOpSpec m ce k fn).2.2 := by
  unfold specStep fnOpSpec tailSpec
  dsimp only
  cases m.lookup k with
  | none => exact ⟨rfl, rfl⟩
  | some v => dsimp only; cases fn v <;> exact ⟨rfl, rfl⟩

theorem step_refines (c : Cfg κ) (s : MT κ ν) (m : AMap κ ν) (op : Op κ ν) (hg : Good c s m) :
    ∃ m', specStep s.locked m op (step c s op).2 m' ∧ Good c (step c s op).1 m' := by
  obtain ⟨t, locked⟩ := s
  obtain ⟨hi, hr, hl⟩ := hg
  simp only at hi hr hl
  cases op with
  | fnOp ce k fn =>
    cases locked with
    | true => exact ⟨m, ⟨rfl, rfl⟩, hi, hr, hl⟩
    | false =>
      obtain ⟨a, r1, r2⟩ := fnOp_sim c ce t m k fn hi hr
      refine ⟨_, ?_, a.inv, a.rel, nofun⟩
      show specStep false m _ (Obs.bool _ _) _
      rw [r1, r2]
      exact specStep_fnOp m ce k fn
  | findVal k =>
    cases locked with
    | true => exact ⟨m, ⟨rfl, rfl⟩, hi, hr, hl⟩
    | false =>
      obtain ⟨a1, a2, a3⟩ := findVal_refines c t m k hi hr
      exact ⟨m, ⟨congrArg Obs.val a3, rfl⟩, a1, a2, nofun⟩
  | uprase k v ca me fn =>
    cases locked with
    | true => exact ⟨m, ⟨rfl, rfl⟩, hi, hr, hl⟩
    | false =>
      obtain ⟨a1, _, a3⟩ := uprase_refines c false t m k v ca me fn hi hr (fun e => by cases e)
      rcases a3 with ⟨e, r1, r2, r3, r4⟩ | ⟨r1, r2, r3⟩
      · exact ⟨m, .inl ⟨e, r2, congr (congrArg Obs.bool r1) r3, rfl⟩, a1, r4, nofun⟩
      · exact ⟨_, .inr ⟨congr (congrArg Obs.bool r1) r2, rfl⟩, a1, r3, nofun⟩
  | rehash n =>
    obtain ⟨a1, a2, a3, a4⟩ := rehash_refines c locked t m n hi hr hl
    exact ⟨m, ⟨rfl, _, rfl, a4⟩, a1, a2, a3⟩
  | reserve n =>
    obtain ⟨a1, a2, a3, a4⟩ := reserve_refines c locked t m n hi hr hl
    exact ⟨m, ⟨rfl, _, rfl, a4⟩, a1, a2, a3⟩
  | clear =>
    obtain ⟨a1, a2, a3⟩ := clear_refines c t m hi hr
    exact ⟨[], ⟨rfl, rfl⟩, a1, a2, fun _ => a3⟩
  | setMlf x =>
    obtain ⟨a1, a2, a3⟩ := setMlf_spec c t m x hi hr
    exact ⟨m, ⟨rfl, _, rfl⟩, a1, a2, fun e => a3 (hl e)⟩
  | setMhp x =>
    obtain ⟨a1, a2, a3⟩ := setMhp_spec c t m x hi hr
    exact ⟨m, ⟨rfl, _, rfl⟩, a1, a2, fun e => a3 (hl e)⟩
  | lockTable =>
    cases locked with
    | true => exact ⟨m, ⟨rfl, rfl⟩, hi, hr, hl⟩
    | false =>
      obtain ⟨a1, a2, a3, _⟩ := lockTable_refines c t m hi hr
      exact ⟨m, ⟨rfl, rfl⟩, a1, a2, fun _ => a3⟩
  | unlock => exact ⟨m, ⟨rfl, rfl⟩, hi, hr, fun e => by cases e⟩
  | ltErase k =>
    cases locked with
    | false => exact ⟨m, ⟨rfl, rfl⟩, hi, hr, hl⟩
    | true =>
      obtain ⟨a1, a2, a3, a4⟩ := ltErase_refines c t m k hi hr (hl rfl)
      exact ⟨_, ⟨congrArg Obs.count a4, rfl⟩, a1, a3, fun _ => a2⟩
  | ltInsert k v =>
    cases locked with
    | false => exact ⟨m, ⟨rfl, rfl⟩, hi, hr, hl⟩
    | true =>
      obtain ⟨a1, a2, a3⟩ := ltInsert_refines c t m k v hi hr (hl rfl)
      cases hres : (t.ltInsert c k v).2 with
      | err e =>
        rw [hres] at a3
        exact ⟨m, by simp [specStep, step, hres, a3.1], a1, a3.2, fun _ => a2⟩
      | ok pr =>
        obtain ⟨p, ins⟩ := pr
        rw [hres] at a3
        obtain ⟨r1, r2, _⟩ := a3
        subst r1
        exact ⟨_, by simp [specStep, step, hres], a1, r2, fun _ => a2⟩

def run (c : Cfg κ) (s : MT κ ν) : List (Op κ ν) → MT κ ν × List (Obs ν)
  | [] => (s, [])
  | op :: rest =>
    let r := step c s op
    let r' := run c r.1 rest
    (r'.1, r.2 :: r'.2)

/-- the abstract map admits a run with these observations -/
def specRun (locked : Bool) (m : AMap κ ν) : List (Op κ ν) → List (Obs ν) → AMap κ ν → Prop
  | [], [], m' => m' = m
  | op :: rest, o :: os, m' =>
    ∃ m1, specStep locked m op o m1 ∧
      specRun (match op with | .lockTable => true | .unlock => false | _ => locked) m1 rest os m'
  | _, _, _ => False

private theorem step_locked (c : Cfg κ) (s : MT κ ν) (op : Op κ ν) :
    (step c s op).1.locked = (match op with | .lockTable => true | .unlock => false | _ => s.locked) := by
  obtain ⟨t, locked⟩ := s
  cases op <;> cases locked <;> rfl

/-- **C02**: every finite sequence of operations, from any good state, is a run of the abstract map and
ends in a good state representing the final map -/
theorem seq_refines (c : Cfg κ) (ops : List (Op κ ν)) (s : MT κ ν) (m : AMap κ ν) (hg : Good c s m) :
    ∃ m', specRun s.locked m ops (run c s ops).2 m' ∧ Good c (run c s ops).1 m' := by
  induction ops generalizing s m with
  | nil => exact ⟨m, rfl, hg⟩
  | cons op rest ih =>
    obtain ⟨m1, h1, g1⟩ := step_refines c s m op hg
    obtain ⟨m', h2, g2⟩ := ih (step c s op).1 m1 g1
    rw [step_locked] at h2
    exact ⟨m', ⟨m1, h1, h2⟩, g2⟩

/-- in particular from a freshly constructed table of any capacity, for any configuration -/
theorem seq_refines_from_init (c : Cfg κ) (n : Nat) (hS : 0 < c.S) (hM : ∃ j, c.M = 2 ^ j) (ops : List (Op κ ν)) :
    ∃ m', specRun false [] ops (run c ⟨(Table.init c n : Table κ ν), false⟩ ops).2 m' ∧
      Good c (run c ⟨(Table.init c n : Table κ ν), false⟩ ops).1 m' := by
  obtain ⟨a1, a2⟩ := init_refines (ν := ν) c n hS hM
  exact seq_refines c ops ⟨Table.init c n, false⟩ [] ⟨a1, a2, fun e => by cases e⟩

end Cuckoo.Props.C02
