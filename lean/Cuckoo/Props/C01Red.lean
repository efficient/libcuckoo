import Cuckoo.Proofs.Fine.Run
/-!
# C01Red — reduction: under the locking protocol every lock-hold ("episode") is atomic

`Model/Fine.lean` refines the protocol's transition system to single data accesses: threads read and write memory
locations one at a time, arbitrarily interleaved, a location being touched only under the stripe lock that guards it
in the current lock array (`Proto.accept … (.access …)`), and a hold being two-phase (rule T: no `acquire`/`append`
after the first `release` of the hold).  The theorems below say that such an execution is *serializable with each
hold atomic*: executing the committed episodes one after the other, in the order of their commit points (first
release), every read returns exactly the value the thread saw in the concurrent execution, the final memory is the
memory of the concurrent execution, and every thread performs exactly its own sequence of accesses, hold by hold.
This is the two-phase-locking argument that the other property files use as "a lock-protected block is atomic".

`serialize G hp n mem0 tr = some g` : `tr` is accepted from the initial state (`n` locks, memory `mem0`) and `g`
carries the final fine state `g.fs`, the committed episodes `g.E` (commit order), the open logs `g.opn`, and the
hold counters `g.hold`.
-/
namespace Cuckoo.Props.C01Red
open Cuckoo.Proto Cuckoo.Fine

variable {V : Type} [DecidableEq V]

/-- the ghost construction never blocks: every trace accepted by `Fine.run` has a serialization, with the same state -/
theorem serialize_total (G : Nat → Nat → Nat) (hp n : Nat) (mem0 : Nat → V) (tr : List (FEv V)) (s : FS V)
    (h : Fine.run G (Fine.init hp n mem0) tr = some s) : ∃ g, serialize G hp n mem0 tr = some g ∧ g.fs = s :=
  Option.map_eq_some_iff.1 ((grun_map_fs tr (ginit hp n mem0)).trans h)

theorem serialize_run (G : Nat → Nat → Nat) (hp n : Nat) (mem0 : Nat → V) (tr : List (FEv V)) (g : GS V)
    (h : serialize G hp n mem0 tr = some g) : Fine.run G (Fine.init hp n mem0) tr = some g.fs :=
  (grun_map_fs tr (ginit hp n mem0)).symm.trans (congrArg (Option.map (·.fs)) h)

theorem serialize_inv (G : Nat → Nat → Nat) (hp n : Nat) (hn : 0 < n) (mem0 : Nat → V) (tr : List (FEv V)) (g : GS V)
    (h : serialize G hp n mem0 tr = some g) : RInv G mem0 g :=
  grun_rinv tr h (rinit G hp n hn mem0)

/-- The serial execution of the committed episodes, each atomic, in commit order, succeeds — every read
returns the value that was read in the concurrent execution — and its final memory agrees with the concurrent memory
on every location that no pre-commit (open) log has written. -/
theorem episodes_serializable (G : Nat → Nat → Nat) (hp n : Nat) (hn : 0 < n) (mem0 : Nat → V) (tr : List (FEv V))
    (g : GS V) (h : serialize G hp n mem0 tr = some g) :
    ∃ am, runAccs mem0 (g.E.flatMap (·.accs)) = some am ∧ ∀ x, (∀ t, x ∉ wlocs (g.opn t)) → am x = g.fs.mem x :=
  have hi := serialize_inv G hp n hn mem0 tr g h
  hi.ser.committed fun _ _ _ ht hu => hi.open_disj ht hu

/-- … moreover each open log is itself consistent: executed after the committed episodes it reads what its thread
read, and produces the concurrent memory on the locations it touches -/
theorem open_log_consistent (G : Nat → Nat → Nat) (hp n : Nat) (hn : 0 < n) (mem0 : Nat → V) (tr : List (FEv V))
    (g : GS V) (h : serialize G hp n mem0 tr = some g) (t : Tid) :
    ∃ mt, runAccs mem0 (g.E.flatMap (·.accs) ++ g.opn t) = some mt ∧ ∀ x ∈ locs (g.opn t), mt x = g.fs.mem x := by
  have hi := serialize_inv G hp n hn mem0 tr g h
  obtain ⟨mt, hmt, hag⟩ := hi.ser t
  exact ⟨mt, hmt, fun x hx => hag x fun u hu hxu => hu (hi.open_disj hx hxu).symm⟩

/-- When all open logs are empty the serial execution ends in exactly the concurrent memory … -/
theorem quiescent_memory_eq_open_empty (G : Nat → Nat → Nat) (hp n : Nat) (hn : 0 < n) (mem0 : Nat → V) (tr : List (FEv V))
    (g : GS V) (h : serialize G hp n mem0 tr = some g) (hq : ∀ t, g.opn t = []) :
    runAccs mem0 (g.E.flatMap (·.accs)) = some g.fs.mem :=
  (serialize_inv G hp n hn mem0 tr g h).ser.quiescent hq

/-- … in particular when no thread holds a lock -/
theorem quiescent_memory_eq (G : Nat → Nat → Nat) (hp n : Nat) (hn : 0 < n) (mem0 : Nat → V) (tr : List (FEv V))
    (g : GS V) (h : serialize G hp n mem0 tr = some g) (hq : ∀ t, (g.fs.ps.th t).held = []) :
    runAccs mem0 (g.E.flatMap (·.accs)) = some g.fs.mem := by
  have hi := serialize_inv G hp n hn mem0 tr g h
  exact quiescent_memory_eq_open_empty G hp n hn mem0 tr g h fun t =>
    Classical.byContradiction fun hne => hi.open_held hne (hq t)

/-- Every thread makes, in the serialization, exactly the accesses it made in the concurrent execution — same
locations, same values read and written, same order: its episodes in `E`, in order, followed by its open log. -/
theorem thread_view_preserved (G : Nat → Nat → Nat) (hp n : Nat) (hn : 0 < n) (mem0 : Nat → V) (tr : List (FEv V))
    (g : GS V) (h : serialize G hp n mem0 tr = some g) (t : Tid) :
    (g.E.filter fun p => decide (p.tid = t)).flatMap (·.accs) ++ g.opn t = accsOf t tr := by
  have hv := viewQ_run t (fun _ => true) tr h (rinit G hp n hn mem0)
  rw [accsSel_true t tr h] at hv
  simpa [viewQ, selE, flat, ginit] using hv

/-- An episode is one hold of one thread.  (a) The episodes of a thread are numbered by its holds, in order
(so a key `(thread, hold)` occurs at most once); (b) an episode belongs to a past hold, or to the current hold of a
thread that has committed and still holds a lock; (c) for every thread `t` and hold number `k`, the episode `(t,k)` —
or, before the commit, the open log — consists of exactly the accesses that `t` made during its `k`-th hold. -/
theorem episode_is_one_hold (G : Nat → Nat → Nat) (hp n : Nat) (hn : 0 < n) (mem0 : Nat → V) (tr : List (FEv V))
    (g : GS V) (h : serialize G hp n mem0 tr = some g) :
    (g.E.Pairwise fun p q => p.tid = q.tid → p.hold < q.hold) ∧
    (∀ p ∈ g.E, p.hold < g.hold p.tid ∨
      (p.hold = g.hold p.tid ∧ g.fs.shrunk p.tid = true ∧ (g.fs.ps.th p.tid).held ≠ [])) ∧
    (∀ t k, (g.E.filter fun p => decide (p.tid = t) && p.hold == k).flatMap (·.accs) ++
        (if g.hold t = k then g.opn t else []) = accsOfHold G t k (ginit hp n mem0) tr) := by
  have hi := serialize_inv G hp n hn mem0 tr g h
  refine ⟨hi.sorted, ?_, ?_⟩
  · intro p hp
    exact (hi.keys p hp).imp id fun h1 => ⟨h1.1, h1.2, (hi.shr _ h1.2).1⟩
  · intro t k
    have hv := viewQ_run t (fun j => j == k) tr h (rinit G hp n hn mem0)
    simpa [viewQ, selE, flat, ginit, accsOfHold] using hv

/-- … hence a committed episode is literally the list of accesses of its thread during that one hold -/
theorem episode_accs (G : Nat → Nat → Nat) (hp n : Nat) (hn : 0 < n) (mem0 : Nat → V) (tr : List (FEv V))
    (g : GS V) (h : serialize G hp n mem0 tr = some g) (p : Ep V) (hp' : p ∈ g.E) :
    p.accs = accsOfHold G p.tid p.hold (ginit hp n mem0) tr := by
  have hi := serialize_inv G hp n hn mem0 tr g h
  rw [← (episode_is_one_hold G hp n hn mem0 tr g h).2.2 p.tid p.hold]
  have hopn : (if g.hold p.tid = p.hold then g.opn p.tid else []) = [] := by
    split
    next he => exact hi.open_nil_of_shrunk ((hi.keys p hp').resolve_left (by omega)).2
    · rfl
  rw [hopn, List.append_nil]
  exact (selE_key g.E (nodup_of_sorted hi.sorted) p hp').symm

/-- The commit order respects real time: if, at some point of the trace (after `tr1`), hold `k` of thread `t`
has ended and hold `j` of thread `u` has not begun, then the episode of the former precedes the episode of the
latter in `E` (whenever both get committed). -/
theorem commit_order_respects_real_time (G : Nat → Nat → Nat) (hp n : Nat) (hn : 0 < n) (mem0 : Nat → V)
    (tr1 tr2 : List (FEv V)) (g1 g2 : GS V)
    (h1 : serialize G hp n mem0 tr1 = some g1) (h2 : serialize G hp n mem0 (tr1 ++ tr2) = some g2)
    (t k u j : Nat) (hA : k < g1.hold t)
    (hB : g1.hold u ≤ j) (hB' : g1.hold u = j → (g1.fs.ps.th u).held = [])
    (p q : Ep V) (hp' : p ∈ g2.E) (hpt : p.tid = t) (hpk : p.hold = k)
    (hq' : q ∈ g2.E) (hqt : q.tid = u) (hqk : q.hold = j) :
    ∃ A B C, g2.E = A ++ p :: (B ++ q :: C) := by
  have h12 : grun G g1 tr2 = some g2 := by
    rw [serialize, grun_append, show grun G _ tr1 = some g1 from h1] at h2
    exact h2
  subst hpt hpk hqt hqk
  exact commit_order (serialize_inv G hp n hn mem0 tr1 g1 h1) tr2 h12 hp' hq' hA hB hB'

/-! ### non-vacuity

Four stripes, location `x` guarded by stripe `x % size`, memory initially `0`.  In `tr1` thread 0 takes locks 1 and 2,
reads and writes location 1, thread 1 takes lock 3 and writes location 3; thread 0 then *releases lock 1 (commit) and
keeps writing location 2 under lock 2*, thread 1 commits, thread 0 reads location 2 again (this late read is inserted
into thread 0's episode, in the middle of `E`, before thread 1's episode) and ends its hold. -/

def G0 : Nat → Nat → Nat := fun s x => x % s
def pre (t : Tid) : List (FEv Nat) := [.sync (.rcLoad t), .sync (.hpLoad t), .sync (.genLoad t)]
def show4 (m : Option (Nat → Nat)) : Option (List Nat) := m.map fun m => [m 0, m 1, m 2, m 3]

def tr1 : List (FEv Nat) :=
  pre 0 ++ [.sync (.acquire 0 ⟨0,1⟩), .sync (.rcLoad 0), .sync (.acquire 0 ⟨0,2⟩), .data 0 (.read 1 0), .data 0 (.write 1 5)] ++
  pre 1 ++ [.sync (.acquire 1 ⟨0,3⟩), .sync (.rcLoad 1), .data 1 (.write 3 7),
    .sync (.release 0 ⟨0,1⟩), .data 0 (.write 2 9), .sync (.release 1 ⟨0,3⟩), .data 0 (.read 2 9), .sync (.release 0 ⟨0,2⟩)]

example : (serialize G0 3 4 (fun _ => 0) tr1).map (·.E) =
    some [⟨0, 0, [.read 1 0, .write 1 5, .write 2 9, .read 2 9]⟩, ⟨1, 0, [.write 3 7]⟩] := by decide +kernel
example : show4 ((serialize G0 3 4 (fun _ => 0) tr1).map (·.fs.mem)) = some [0, 5, 9, 7] := by decide +kernel
example : show4 (((serialize G0 3 4 (fun _ => 0) tr1).map (·.E)).bind fun E => runAccs (fun _ => 0) (flat E)) =
    some [0, 5, 9, 7] := by decide +kernel

/-- a table owner (`lock_all`) writes, appends a lock array (the guard of every location changes), writes again,
releases everything; a second thread then reads under a lock of the new array -/
def tr2 : List (FEv Nat) :=
  [.sync (.allBegin 0), .sync (.acquire 0 ⟨0,0⟩), .sync (.acquire 0 ⟨0,1⟩), .sync (.allEnd 0),
   .data 0 (.write 1 4), .sync (.append 0 3), .sync (.storeHp 0 4), .sync (.bumpRc 0), .data 0 (.read 1 4),
   .data 0 (.write 2 6), .sync (.release 0 ⟨0,0⟩), .sync (.release 0 ⟨0,1⟩), .sync (.release 0 ⟨1,0⟩),
   .sync (.release 0 ⟨1,1⟩), .sync (.release 0 ⟨1,2⟩), .sync (.opEnd 0 false)] ++
  pre 1 ++ [.sync (.acquire 1 ⟨1,2⟩), .sync (.rcLoad 1), .data 1 (.read 2 6), .sync (.release 1 ⟨1,2⟩)]

example : (serialize G0 3 2 (fun _ => 0) tr2).map (·.E) =
    some [⟨0, 0, [.write 1 4, .read 1 4, .write 2 6]⟩, ⟨1, 0, [.read 2 6]⟩] := by decide +kernel

/-- rejected by rule T: an acquire after a release within one hold (the protocol alone accepts it) -/
def trBadT : List Ev :=
  [.rcLoad 0, .hpLoad 0, .genLoad 0, .acquire 0 ⟨0,1⟩, .rcLoad 0, .acquire 0 ⟨0,2⟩, .release 0 ⟨0,1⟩, .acquire 0 ⟨0,3⟩]
example : (Proto.run (Proto.init 3 4) trBadT).isSome = true := by decide +kernel
example : (Fine.run G0 (Fine.init 3 4 (fun _ => (0 : Nat))) (trBadT.map .sync)).isSome = false := by decide +kernel

/-- rejected: an access without the lock (thread 1 writes location 1, whose stripe is held by thread 0) -/
example : (Fine.run G0 (Fine.init 3 4 (fun _ => (0 : Nat)))
    (pre 0 ++ [.sync (.acquire 0 ⟨0,1⟩), .sync (.rcLoad 0)] ++ pre 1 ++
      [.sync (.acquire 1 ⟨0,3⟩), .sync (.rcLoad 1), .data 1 (.write 1 8)])).isSome = false := by decide +kernel
/-- … whereas under its own lock it is accepted -/
example : (Fine.run G0 (Fine.init 3 4 (fun _ => (0 : Nat)))
    (pre 0 ++ [.sync (.acquire 0 ⟨0,1⟩), .sync (.rcLoad 0)] ++ pre 1 ++
      [.sync (.acquire 1 ⟨0,3⟩), .sync (.rcLoad 1), .data 1 (.write 3 8)])).isSome = true := by decide +kernel
/-- rejected: a read event carrying a value that is not in memory -/
example : (Fine.run G0 (Fine.init 3 4 (fun _ => (0 : Nat)))
    (pre 0 ++ [.sync (.acquire 0 ⟨0,1⟩), .sync (.rcLoad 0), .data 0 (.read 1 3)])).isSome = false := by decide +kernel
/-- rejected: an access before the validation of the first lock -/
example : (Fine.run G0 (Fine.init 3 4 (fun _ => (0 : Nat)))
    (pre 0 ++ [.sync (.acquire 0 ⟨0,1⟩), .data 0 (.read 1 0)])).isSome = false := by decide +kernel

end Cuckoo.Props.C01Red
