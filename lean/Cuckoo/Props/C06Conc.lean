import Cuckoo.Props.C01Conc
/-!
# C06 (second half) — schedules that contain locked sections

`Props/C06.lean` shows, at the level of the locking protocol, that between `lock_table()` returning and the section's end
no other thread validates, touches a bucket or releases anything (`section_excludes_others`, `no_validation_during_section`)
and that operations parked meanwhile re-validate afterwards (`parked_ops_revalidate`).  Hence a whole locked section —
`lock_table()`, any sequence of operations through the `locked_table` (including growth, shrinking, clearing), the
unlock — takes effect as ONE atomic step between the critical sections of the other threads.

Here such steps are added to the schedules of `Props/C01Conc.lean`: a generalised schedule is any finite sequence of
ordinary critical sections (of any calls, with any stale local data) and whole locked sections.  For every such schedule
the execution is linearizable, each locked section being a contiguous block of the sequential execution whose
observations are those of the sequential specification run on the map the section found, and everything that takes
effect afterwards starts from exactly the map the section left.
-/
namespace Cuckoo.Props.C06Conc
open Cuckoo Cuckoo.Model Cuckoo.Model.Conc Cuckoo.Spec
variable {κ ν : Type} [DecidableEq κ]

/-- one step of a generalised schedule -/
inductive GEv (c : Cfg κ) (ν : Type)
  | sec (e : C01Conc.Ev c ν)                 -- a critical section of an ordinary call
  | locked (ops : List (C02.Op κ ν))          -- a whole locked section performing `ops` through the locked_table

inductive GObs (ν : Type)
  | sec (r : Option (Resp ν))
  | locked (os : List (C02.Obs ν))

def bracket (ops : List (C02.Op κ ν)) : List (C02.Op κ ν) := .lockTable :: (ops ++ [.unlock])

/-- the section as an atomic step on the table -/
def runLocked (c : Cfg κ) (t : Table κ ν) (ops : List (C02.Op κ ν)) : Table κ ν × List (C02.Obs ν) :=
  let r := C02.run c ⟨t, false⟩ (bracket ops)
  (r.1.t, r.2)

def gexec (c : Cfg κ) (t : Table κ ν) : List (GEv c ν) → Table κ ν × List (GObs ν)
  | [] => (t, [])
  | .sec e :: es =>
    let r := e.f t
    let r' := gexec c r.1 es
    (r'.1, .sec r.2 :: r'.2)
  | .locked ops :: es =>
    let r := runLocked c t ops
    let r' := gexec c r.1 es
    (r'.1, .locked r.2 :: r'.2)

/-- the sequential execution of the abstract map that a generalised schedule must correspond to -/
def glin {c : Cfg κ} (m : AMap κ ν) : List (GEv c ν) → List (GObs ν) → AMap κ ν → Prop
  | [], [], m' => m' = m
  | .sec _ :: es, .sec none :: os, m' => glin m es os m'
  | .sec e :: es, .sec (some r) :: os, m' => ∃ m1, C01Conc.specOf m e.call r m1 ∧ glin m1 es os m'
  | .locked ops :: es, .locked obs :: os, m' => ∃ m1, C02.specRun false m (bracket ops) obs m1 ∧ glin m1 es os m'
  | _, _, _ => False

private theorem run_append_locked (c : Cfg κ) (ops : List (C02.Op κ ν)) (s : C02.MT κ ν) :
    (C02.run c s (ops ++ [.unlock])).1.locked = false := by
  induction ops generalizing s with
  | nil => simp [C02.run, C02.step]
  | cons op rest ih => simp only [List.cons_append, C02.run]; exact ih _

/-- a locked section is a legitimate atomic step: it hands the table back intact (invariant, representation of exactly
the map the sequential specification of its operations yields) -/
theorem locked_section_atomic (c : Cfg κ) (t : Table κ ν) (m : AMap κ ν) (ops : List (C02.Op κ ν))
    (h : Inv c t) (hr : Rel c t m) :
    ∃ m', C02.specRun false m (bracket ops) (runLocked c t ops).2 m' ∧
      Inv c (runLocked c t ops).1 ∧ Rel c (runLocked c t ops).1 m' := by
  obtain ⟨m', h1, g1, g2, _⟩ := C02.seq_refines c (bracket ops) ⟨t, false⟩ m ⟨h, hr, fun e => by cases e⟩
  exact ⟨m', h1, g1, g2⟩

/-- and it really ends unlocked, whatever it did -/
theorem locked_section_ends_unlocked (c : Cfg κ) (t : Table κ ν) (ops : List (C02.Op κ ν)) :
    (C02.run c ⟨t, false⟩ (bracket ops)).1.locked = false := by
  unfold bracket
  simp only [C02.run]
  exact run_append_locked c ops _

/-- **linearizability of every interleaving of critical sections and locked sections** -/
theorem conc_with_sections_linearizable (c : Cfg κ) (evs : List (GEv c ν)) (t : Table κ ν) (m : AMap κ ν)
    (h : Inv c t) (hr : Rel c t m) :
    ∃ m', glin m evs (gexec c t evs).2 m' ∧ Inv c (gexec c t evs).1 ∧ Rel c (gexec c t evs).1 m' := by
  induction evs generalizing t m with
  | nil => exact ⟨m, rfl, h, hr⟩
  | cons ev rest ih =>
    cases ev with
    | sec e =>
      obtain ⟨m1, i, r, _, o⟩ := e.ok.step h hr
      obtain ⟨m', a, b, d⟩ := ih (e.f t).1 m1 i r
      refine ⟨m', ?_, b, d⟩
      show glin m (.sec e :: _) (.sec (e.f t).2 :: _) m'
      rcases o with ⟨e', rfl⟩ | ⟨x, e', s⟩ <;> rw [e']
      · exact a
      · exact ⟨m1, s, a⟩
    | locked ops =>
      obtain ⟨m1, s, i, r⟩ := locked_section_atomic c t m ops h hr
      obtain ⟨m', a, b, d⟩ := ih (runLocked c t ops).1 m1 i r
      exact ⟨m', ⟨m1, s, a⟩, b, d⟩

/-- non-vacuity: a section that inserts through the locked table, between two ordinary calls -/
example (c : Cfg Nat) (t : Table Nat Nat) (m : AMap Nat Nat) (h : Inv c t) (hr : Rel c t m) :
    ∃ m', glin m [GEv.sec ⟨.clear, clearSec c, C01Conc.clearSec_sec c⟩, GEv.locked [.ltInsert 1 2, .rehash 3],
                  GEv.sec ⟨.lookup false 1 (fun v => .ret v false), lookupSec c false 1 _, C01Conc.lookupSec_sec c false 1 _⟩]
      (gexec c t [GEv.sec ⟨.clear, clearSec c, C01Conc.clearSec_sec c⟩, GEv.locked [.ltInsert 1 2, .rehash 3],
                  GEv.sec ⟨.lookup false 1 (fun v => .ret v false), lookupSec c false 1 _, C01Conc.lookupSec_sec c false 1 _⟩]).2 m' :=
  (conc_with_sections_linearizable c _ t m h hr).imp fun _ h => h.1

end Cuckoo.Props.C06Conc
