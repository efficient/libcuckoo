import Cuckoo.Proofs.SpecMap
import Cuckoo.Proofs.LinSearch
import Cuckoo.Proofs.LinSpec
/-!
# C01 (oracle) — the executable linearizability checker is sound and complete, and its specification is `specOf`

`Model/Lin.lean` is an executable Wing–Gong search over recorded histories of the real code (`check`, `checkWitness`;
memoizing, never exploring a failed configuration twice: `checkFast`, the one the driver runs).  Here: `check` accepts
exactly the `Linearizable` histories (completeness for `WellFormed` ones) and `checkFast` gives the same verdict; the
linearization returned is one, and so is any order the search-independent `validWitness` accepts; the per-call
specification `applySpec` is the sequential specification `C01Conc.specOf` of the model call, the response projected to
what the harness records, hence the linearization `C01Conc.conc_linearizable` produces is a `runSpec` run; a section is
a `C02.specRun` in locked mode.
-/
namespace Cuckoo.Props.C01Lin
open Cuckoo Cuckoo.Model Cuckoo.Spec Cuckoo.Model.Conc Cuckoo.Lin

/-- the order respects real time: a call that responded before another was invoked comes first -/
def RealTime (order : List HOp) : Prop :=
  ∀ (i j : Nat) (hi : i < j) (hj : j < order.length), ¬ (order[j].resp < (order[i]'(Nat.lt_trans hi hj)).inv)

/-- **linearizability** of the history `h` from the map `m0` to the final contents `final` -/
def Linearizable (m0 : AMap Nat Nat) (h : List HOp) (final : AMap Nat Nat) : Prop :=
  ∃ order, order.Perm h ∧ RealTime order ∧ ∃ m, runSpec m0 order = some m ∧ sameMap m final = true

/-- every call is invoked before it responds (the harness stamps are global event indices) -/
def WellFormed (h : List HOp) : Prop := ∀ o ∈ h, o.inv < o.resp

theorem wellFormedB_iff (h : List HOp) : wellFormedB h = true ↔ WellFormed h := by
  simp [wellFormedB, WellFormed]

instance (h : List HOp) : Decidable (WellFormed h) := decidable_of_iff _ (wellFormedB_iff h)

theorem sameMap_spec (a b : AMap Nat Nat) : sameMap a b = true ↔ ∀ k, a.lookup k = b.lookup k := by
  unfold sameMap
  simp only [Bool.and_eq_true, List.all_eq_true, beq_iff_eq]
  refine ⟨fun ⟨h1, h2⟩ k => ?_, fun h => ⟨fun p _ => (h p.1).symm, fun p _ => h p.1⟩⟩
  -- a key bound in one of the lists is a pair of it, and there the two lookups were compared
  cases ha : a.lookup k with
  | some v => exact ((h1 _ (AMap.mem_of_lookup a k v ha)).trans ha).symm
  | none =>
    cases hb : b.lookup k with
    | none => rfl
    | some v => exact ha.symm.trans ((h2 _ (AMap.mem_of_lookup b k v hb)).trans hb)

private theorem realTime_iff (order : List HOp) : RealTime order ↔ PairwiseRealTime order := by
  unfold RealTime PairwiseRealTime
  rw [List.pairwise_iff_getElem]
  constructor
  · intro h i j hi hj hij
    exact Nat.le_of_not_lt (h i j hij hj)
  · intro h i j hij hj
    exact Nat.not_lt_of_le (h i j (Nat.lt_trans hij hj) hj hij)

theorem checkWitness_sound (m0 : AMap Nat Nat) (h : List HOp) (final : AMap Nat Nat) (order : List HOp)
    (hc : checkWitness m0 h final = some order) :
    order.Perm h ∧ RealTime order ∧ ∃ m, runSpec m0 order = some m ∧ sameMap m final = true := by
  obtain ⟨a, b, c⟩ := search_sound final h.length m0 h order hc
  exact ⟨a, (realTime_iff order).mpr b, c⟩

/-- **soundness**: an accepted history is linearizable -/
theorem check_sound (m0 : AMap Nat Nat) (h : List HOp) (final : AMap Nat Nat)
    (hc : check m0 h final = true) : Linearizable m0 h final := by
  obtain ⟨order, hw⟩ := Option.isSome_iff_exists.mp hc
  exact ⟨order, checkWitness_sound m0 h final order hw⟩

/-- **completeness**: a linearizable (well-formed) history is accepted -/
theorem check_complete (m0 : AMap Nat Nat) (h : List HOp) (final : AMap Nat Nat) (hwf : WellFormed h)
    (hl : Linearizable m0 h final) : check m0 h final = true := by
  obtain ⟨order, a, b, c⟩ := hl
  exact search_complete final h.length m0 h order (Nat.le_refl _) (fun o ho => Nat.le_of_lt (hwf o ho))
    ⟨a, (realTime_iff order).mp b, c⟩

/-- the memoizing search returns the very linearization the plain search returns (`searchM_eq`: a remembered
configuration is one on which the plain search fails) -/
theorem checkWitnessFast_eq_checkWitness (m0 : AMap Nat Nat) (h : List HOp) (final : AMap Nat Nat) :
    checkWitnessFast m0 h final = checkWitness m0 h final :=
  (searchM_eq final h.length m0 h [] rfl (fun _ he => nomatch he)).1

theorem checkFast_eq (m0 : AMap Nat Nat) (h : List HOp) (final : AMap Nat Nat) : checkFast m0 h final = check m0 h final :=
  congrArg Option.isSome (checkWitnessFast_eq_checkWitness m0 h final)

theorem checkFast_eq_check (m0 : AMap Nat Nat) (h : List HOp) (final : AMap Nat Nat) (hwf : WellFormed h) :
    checkFast m0 h final = check m0 h final :=
  checkFast_eq m0 h final

theorem checkFast_sound (m0 : AMap Nat Nat) (h : List HOp) (final : AMap Nat Nat)
    (hc : checkFast m0 h final = true) : Linearizable m0 h final :=
  check_sound m0 h final ((checkFast_eq m0 h final).symm.trans hc)

theorem checkFast_complete (m0 : AMap Nat Nat) (h : List HOp) (final : AMap Nat Nat) (hwf : WellFormed h)
    (hl : Linearizable m0 h final) : checkFast m0 h final = true :=
  (checkFast_eq m0 h final).trans (check_complete m0 h final hwf hl)

/-- the search-independent re-validation accepts exactly the linearizations -/
theorem validWitness_sound (m0 : AMap Nat Nat) (h order : List HOp) (final : AMap Nat Nat) :
    validWitness m0 h order final = true ↔
      (order.Perm h ∧ RealTime order ∧ ∃ m, runSpec m0 order = some m ∧ sameMap m final = true) := by
  rw [validWitness_iff, realTime_iff]; rfl

/-- **the checker's specification is the specification of the refinement theorems**: for every call that is not a
section, the observed result `r` is possible on `m` and leads to `m'` iff the sequential specification `specOf` of the
model call `callOf op` allows a response that the harness records as `r` (`Projects`) and leads to the same `m'` -/
theorem applySpec_is_specOf (m m' : AMap Nat Nat) (op : LOp) (call : C01Conc.Call Nat Nat) (r : LRes)
    (hc : callOf op = some call) :
    applySpec m op r = some m' ↔ ∃ resp, C01Conc.specOf m call resp m' ∧ Projects op resp r := by
  symm
  cases op <;> cases hc
  case update k v => cases r <;> exact spec_lookup m m' false k (fun _ => v) (fun _ => false) _
  case erase k => cases r <;> exact spec_lookup m m' true k id (fun _ => true) _
  case updatefn k d => cases r <;> exact spec_lookup m m' false k (· + d) (fun _ => false) _
  case erasefn k d => cases r <;> exact spec_lookup m m' true k id (· == d) _
  case insert k v => cases r <;> exact spec_uprase m m' k v id _
  case ioa k v => cases r <;> exact spec_uprase m m' k v (fun _ => v) _
  case upsert k d => cases r <;> exact spec_uprase m m' k d (· + d) _
  case find k => cases r <;> exact spec_find m m' k _
  case rehash => cases r <;> exact spec_resize m m' _
  case reserve => cases r <;> exact spec_resize m m' _
  case clear => cases r <;> exact spec_clear m m' _

/-- every call but a section is a model call -/
theorem callOf_isSome (op : LOp) : (callOf op).isSome = true ∨ ∃ body, op = .sec body := by
  cases op with
  | sec body => exact .inr ⟨body, rfl⟩
  | _ => exact .inl rfl

/-- a schedule whose final sections run on the abstract map (`C01Conc.linRun`, the conclusion of
`C01Conc.conc_linearizable`) is a run of the checker's specification: `evs` are the scheduled sections, each with the
history call it belongs to, the model call, and its response if it is the call's final section -/
theorem linRun_gives_runSpec (evs : List (HOp × C01Conc.Call Nat Nat × Option (Resp Nat))) (m m' : AMap Nat Nat)
    (hcall : ∀ e ∈ evs, callOf e.1.op = some e.2.1)
    (hproj : ∀ e ∈ evs, ∀ resp, e.2.2 = some resp → Projects e.1.op resp e.1.res)
    (hrun : C01Conc.linRun m (evs.map (·.2.1)) (evs.map (·.2.2)) m') :
    runSpec m ((evs.filter (·.2.2.isSome)).map (·.1)) = some m' := by
  induction evs generalizing m with
  | nil =>
    simp only [List.map_nil, C01Conc.linRun] at hrun
    simp [runSpec, hrun]
  | cons e rest ih =>
    obtain ⟨o, call, resp⟩ := e
    have ih' := fun m1 => ih m1 (fun e he => hcall e (List.mem_cons_of_mem _ he))
      (fun e he => hproj e (List.mem_cons_of_mem _ he))
    cases resp with
    | none =>
      simpa using ih' m hrun
    | some resp =>
      obtain ⟨m1, s1, s2⟩ := hrun
      have ha : applySpec m o.op o.res = some m1 :=
        (applySpec_is_specOf m m1 o.op call o.res (hcall _ (List.mem_cons_self ..))).mpr
          ⟨resp, s1, hproj _ (List.mem_cons_self ..) resp rfl⟩
      simp only [List.filter_cons, Option.isSome_some, if_true, List.map_cons]
      rw [runSpec_cons m o _ m1 ha]
      exact ih' m1 s2

/-- a section is specified by running its calls in order -/
theorem applySpec_sec (m : AMap Nat Nat) (body : List LtOp) (rs : List LtRes) :
    applySpec m (.sec body) (.sec rs) = secRun m body rs := rfl

/-- **a section is a locked-mode run of `C02.specRun`**: for a body of calls that are operations of `C02.Op`
(`insert`, `erase`, `clear`, `rehash`, `reserve`), the answers `rs` are possible on `m` and lead to `m'` iff the
executed part of the body (`SecObs`: all of it, or up to the first call that threw), bracketed by `lockTable` /
`unlock`, is a `specRun` from `m` to `m'` whose observations the harness records as `rs` -/
theorem secRun_is_specRun (m m' : AMap Nat Nat) (body : List LtOp) (rs : List LtRes)
    (hb : ∀ op ∈ body, (ltToOp op).isSome = true) :
    secRun m body rs = some m' ↔
      ∃ ops obs, SecObs body rs ops obs ∧
        C02.specRun false m (.lockTable :: ops ++ [.unlock]) (.unit (.ok ()) :: obs ++ [.unit (.ok ())]) m' :=
  ⟨fun h => let ⟨ops, obs, h1, h2⟩ := secRun_locked_mp m m' body rs hb h; ⟨ops, obs, h1, m, ⟨rfl, rfl⟩, h2⟩,
   fun ⟨ops, obs, h1, _, ⟨_, e1⟩, h2⟩ => secRun_locked_mpr m m' body rs ops obs h1 (e1 ▸ h2)⟩

/-- the read-only calls of a section (not operations of `C02.Op`) answer from the current map and leave it unchanged:
`find` the `lookup`, `size` the number of pairs (`C05.size_eq_card`) -/
theorem ltStep_find (m m' : AMap Nat Nat) (k : Nat) (r : LtRes) :
    ltStep m (.find k) r = some m' ↔ r = .val (m.lookup k) ∧ m' = m := by
  cases r <;> simp [ltStep, eq_comm (a := m')]

theorem ltStep_size (m m' : AMap Nat Nat) (r : LtRes) :
    ltStep m .size r = some m' ↔ r = .size m.length ∧ m' = m := by
  cases r <;> simp [ltStep, eq_comm (a := m')]

theorem ltStep_other (m m' : AMap Nat Nat) (r : LtRes) :
    ltStep m .other r = some m' ↔ r = .ok ∧ m' = m := by
  cases r <;> simp [ltStep, eq_comm (a := m')]

/-! ### examples (k = 5, v = 7) -/

/-- two threads, sequentially consistent and in real-time order -/
example : check [] [⟨0, 0, 1, .insert 5 7, .bool true⟩, ⟨1, 2, 3, .find 5, .val (some 7)⟩,
    ⟨0, 4, 6, .erase 5, .bool true⟩, ⟨1, 5, 7, .insert 5 9, .bool true⟩] [(5, 9)] = true := by decide +kernel

/-- the classic non-linearizable history: T0's insert returns, THEN T1's find starts and misses the key -/
example : check [] [⟨0, 0, 1, .insert 5 7, .bool true⟩, ⟨1, 2, 3, .find 5, .val none⟩] [(5, 7)] = false := by
  decide +kernel

/-- the same answers are fine when the calls overlap (the find is linearized first) -/
example : check [] [⟨0, 0, 2, .insert 5 7, .bool true⟩, ⟨1, 1, 3, .find 5, .val none⟩] [(5, 7)] = true := by
  decide +kernel

example : checkWitness [] [⟨0, 0, 2, .insert 5 7, .bool true⟩, ⟨1, 1, 3, .find 5, .val none⟩] [(5, 7)] =
    some [⟨1, 1, 3, .find 5, .val none⟩, ⟨0, 0, 2, .insert 5 7, .bool true⟩] := by decide +kernel

/-- a stale read: the update to 8 completed before the find started, yet the find returns the old value 7 -/
example : check [(5, 7)] [⟨0, 0, 1, .update 5 8, .bool true⟩, ⟨1, 2, 3, .find 5, .val (some 7)⟩] [(5, 8)] = false := by
  decide +kernel

/-- a lost update: two overlapping `upsert (+1)` both applied, final value must be 2 -/
example : check [] [⟨0, 0, 2, .upsert 5 1, .bool true⟩, ⟨1, 1, 3, .upsert 5 1, .bool false⟩] [(5, 1)] = false := by
  decide +kernel
example : check [] [⟨0, 0, 2, .upsert 5 1, .bool true⟩, ⟨1, 1, 3, .upsert 5 1, .bool false⟩] [(5, 2)] = true := by
  decide +kernel

/-- the final contents are compared as finite maps (order irrelevant) -/
example : check [] [⟨0, 0, 1, .insert 1 1, .bool true⟩, ⟨0, 2, 3, .insert 2 2, .bool true⟩] [(1, 1), (2, 2)] = true := by
  decide +kernel

/-- a section is one atomic step: inside it the inserted key is seen, the size is exact; an overlapping `find` sees
either everything or nothing of it -/
example : check [] [⟨0, 0, 5, .sec [.insert 5 7, .find 5, .size, .erase 5, .insert 6 1],
      .sec [.bool true, .val (some 7), .size 1, .bool true, .bool true]⟩,
    ⟨1, 1, 4, .find 6, .val none⟩] [(6, 1)] = true := by decide +kernel

/-- … but it cannot observe the middle of the section (key 5 is present only inside it) -/
example : check [] [⟨0, 0, 5, .sec [.insert 5 7, .erase 5], .sec [.bool true, .bool true]⟩,
    ⟨1, 1, 4, .find 5, .val (some 7)⟩] [] = false := by decide +kernel

/-- a failed automatic expansion leaves the map unchanged -/
example : check [] [⟨0, 0, 1, .insert 5 7, .fail .maxhp⟩, ⟨1, 2, 3, .find 5, .val none⟩] [] = true := by decide +kernel

/-- the memoizing search on the same histories -/
example : checkFast [] [⟨0, 0, 1, .insert 5 7, .bool true⟩, ⟨1, 2, 3, .find 5, .val none⟩] [(5, 7)] = false := by
  decide +kernel
example : checkFast [] [⟨0, 0, 2, .insert 5 7, .bool true⟩, ⟨1, 1, 3, .find 5, .val none⟩] [(5, 7)] = true := by
  decide +kernel

/-- a call inside a section throws: the section ends there, the earlier calls have taken effect -/
example : check [] [⟨0, 0, 1, .sec [.insert 5 7, .insert 6 1, .erase 5], .sec [.bool true, .fail .lftl]⟩] [(5, 7)] = true := by
  decide +kernel

end Cuckoo.Props.C01Lin
