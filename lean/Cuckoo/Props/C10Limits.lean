import Cuckoo.Gen.Limits
import Cuckoo.Model.Ops
/-!
# C10 / C15 — the decision logic of the resize limits IS the one in the source text (T-F)

`Gen/Limits.lean` is regenerated on every run by `translate/limits.py` from the text of `check_resize_validity`,
`minimum_load_factor(double)` and `maximum_hashpower(size_type)`: the ordered guards (atoms `(lhs, operator, rhs)`, locals resolved
to the calls that initialise them) with the guarded action, and what follows when no guard fires.  Here the guard lists are
*interpreted* — names are looked up in an environment built from a model table, operators are the ones of `Nat` and of IEEE
doubles (`Float`) — and the model's own decision functions (`Table.checkResize`, `Table.setMlf`, `Table.setMhp`, the
`failure_under_expansion` test of `fastDouble`) are proved to be exactly that interpretation, for every table and argument.
A source change that reorders the guards, weakens a comparison (`<` into `<=`), drops one, or stores a setting before it is
validated changes the generated data and a theorem below stops compiling — on paths no test or stream executes.
-/
namespace Cuckoo.Props.C10Limits
open Cuckoo Cuckoo.Model Cuckoo.Gen.Limits

/-- values of the names that occur in the guards -/
inductive Val
  | nat (n : Nat)
  | flt (x : Float)
  | bool (b : Bool)

abbrev Env := String → Option Val

/-- one atom of a condition; `none` = not interpretable (unknown name / ill-typed): no theorem below would then hold -/
def evalAtom (env : Env) (a : String × String × String) : Option Bool :=
  match a.2.1 with
  | "" => match env a.1 with
    | some (.bool b) => some b
    | _ => none
  | op =>
    match env a.1, env a.2.2 with
    | some (.nat x), some (.nat y) =>
      (match op with
       | "<" => some (decide (x < y)) | ">" => some (decide (x > y)) | "<=" => some (decide (x ≤ y)) | ">=" => some (decide (x ≥ y))
       | "==" => some (decide (x = y)) | "!=" => some (decide (x ≠ y)) | _ => none)
    | some (.flt x), some (.flt y) =>
      (match op with
       | "<" => some (x < y) | ">" => some (x > y) | "<=" => some (x ≤ y) | ">=" => some (x ≥ y) | _ => none)
    | _, _ => none

def evalCond (env : Env) : List (String × String × String) → Option Bool
  | [] => some true
  | a :: rest => do
    let x ← evalAtom env a
    let y ← evalCond env rest
    pure (x && y)

/-- the action of the first guard whose condition holds; `some none` = no guard fires -/
def firstGuard (env : Env) : List (List (String × String × String) × String) → Option (Option String)
  | [] => some none
  | (cond, act) :: rest => do
    let b ← evalCond env cond
    if b then pure (some act) else firstGuard env rest

/-- what the function does: the action of the first guard that fires, else its last statement (`return ok`, or — for a source
that tests the good case first — whatever follows) -/
def outcome (env : Env) (guards : List (List (String × String × String) × String)) (tail : List String) : Option String :=
  (firstGuard env guards).map fun r => r.getD (tail.getLastD "")

/-! ### check_resize_validity -/

def envResize (c : Cfg κ) (t : Table κ ν) (auto : Bool) (origHp newHp : Nat) : Env := fun s =>
  match s with
  | "maximum_hashpower()" => some (.nat t.mhp)
  | "NO_MAXIMUM_HASHPOWER" => some (.nat noMaxHp)
  | "new_hp" => some (.nat newHp)
  | "orig_hp" => some (.nat origHp)
  | "hashpower()" => some (.nat t.hp)
  | "AUTO_RESIZE::value" => some (.bool auto)
  | "load_factor()" => some (.flt (lfOf t.size (t.capacity c)))
  | "minimum_load_factor()" => some (.flt t.mlf)
  | _ => none

/-- the outcome of `check_resize_validity` as the model computes it: the policy exceptions by `Table.checkResize`, then the
`hashpower() != orig_hp` test the callers make (`fastDouble`: `failure_under_expansion`), else `ok` -/
def modelResize (c : Cfg κ) (t : Table κ ν) (auto : Bool) (origHp newHp : Nat) : String :=
  match t.checkResize c auto newHp with
  | some .maxHpExceeded => "throw maximum_hashpower_exceeded"
  | some .loadFactorTooLow => "throw load_factor_too_low"
  | some _ => "?"
  | none => if t.hp ≠ origHp then "return failure_under_expansion" else "return ok"

/-- **the model's resize-validity decision is the interpretation of the source's guards**, for every table, mode and request:
whatever the shape of the source (nested or conjoined conditions, the failure or the success tested first), it throws
`maximum_hashpower_exceeded`, throws `load_factor_too_low`, returns `failure_under_expansion` or returns `ok` in exactly the
cases in which the model does — in particular the load-factor comparison is STRICT and applies to automatic resizes only
(C15: with a minimum of 0 it can never fire) -/
theorem checkResize_is_source (c : Cfg κ) (t : Table κ ν) (auto : Bool) (origHp newHp : Nat) :
    outcome (envResize c t auto origHp newHp) checkResizeValidity checkResizeValidity_then =
      some (modelResize c t auto origHp newHp) := by
  -- the interpreter is run here, once: `simp` resolves the matches on the operator and name strings and leaves a nest of
  -- `if`s over the three guards on either side (left to the branches below, the strings are matched again in each of them,
  -- at three times the cost)
  simp [checkResizeValidity, checkResizeValidity_then, outcome, firstGuard, evalCond, evalAtom, envResize, modelResize,
    Table.checkResize, Table.lfBelow, bind, Option.bind]
  -- the guards, in the order in which source and model decide them: a branch is closed as soon as one fires
  by_cases h1 : ¬t.mhp = noMaxHp ∧ t.mhp < newHp
  · simp [h1]
  · by_cases h2 : auto = true ∧ lfOf t.size (t.capacity c) < t.mlf
    · simp [h1, h2]
    · by_cases h3 : t.hp = origHp <;> simp [h1, h2, h3]

/-- nothing is executed before the guards (other than initialisations of locals) -/
theorem checkResize_nothing_before : checkResizeValidity_before = [] := rfl

/-! ### the setters -/

def envMlf (m : Float) : Env := fun s =>
  match s with
  | "mlf" => some (.flt m)
  | "0.0" => some (.flt 0.0)
  | "1.0" => some (.flt 1.0)
  | _ => none

/-- `minimum_load_factor(mlf)` rejects exactly what the source's guards reject … -/
theorem setMlf_is_source (t : Table κ ν) (m : Float) :
    firstGuard (envMlf m) setMinimumLoadFactor =
      some (match (t.setMlf m).2 with | .err _ => some "throw std::invalid_argument" | .ok _ => none) := by
  simp [setMinimumLoadFactor, firstGuard, evalCond, evalAtom, envMlf, Table.setMlf, bind, Option.bind]
  by_cases h1 : m < 0.0 <;> by_cases h2 : 1.0 < m <;> simp [h1, h2]

/-- … and the setting is stored only after both guards (nothing is written when one fires: every statement of the function
after the guards is the one release store) -/
theorem setMlf_stores_after_validation :
    setMinimumLoadFactor_then = ["minimum_load_factor_.store(mlf,std::memory_order_release)"] ∧ setMinimumLoadFactor_before = [] :=
  ⟨rfl, rfl⟩

def envMhp (t : Table κ ν) (m : Nat) : Env := fun s =>
  match s with
  | "hashpower()" => some (.nat t.hp)
  | "mhp" => some (.nat m)
  | _ => none

theorem setMhp_is_source (t : Table κ ν) (m : Nat) :
    firstGuard (envMhp t m) setMaximumHashpower =
      some (match (t.setMhp m).2 with | .err _ => some "throw std::invalid_argument" | .ok _ => none) := by
  simp [setMaximumHashpower, firstGuard, evalCond, evalAtom, envMhp, Table.setMhp, bind, Option.bind]
  by_cases h : m < t.hp <;> simp [h]

theorem setMhp_stores_after_validation :
    setMaximumHashpower_then = ["maximum_hashpower_.store(mhp,std::memory_order_release)"] ∧ setMaximumHashpower_before = [] :=
  ⟨rfl, rfl⟩

/-! non-vacuity: the interpreter distinguishes `<` from `<=` (a table whose load factor equals the minimum) -/
example : evalAtom (fun s => if s == "a" then some (.flt 1.0) else if s == "b" then some (.flt 1.0) else none) ("a", "<", "b") = some false ∧
          evalAtom (fun s => if s == "a" then some (.flt 1.0) else if s == "b" then some (.flt 1.0) else none) ("a", "<=", "b") = some true := by
  constructor <;> rfl

end Cuckoo.Props.C10Limits
