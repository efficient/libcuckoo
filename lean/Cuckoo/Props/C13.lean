import Cuckoo.Arith.Link
/-!
# C13 — candidate-bucket arithmetic is sound for every hash value and table size

Every theorem below is about the functions in `Cuckoo/Gen/Arith.lean`, which are regenerated from
`/repo/libcuckoo/cuckoohash_map.hh` on every run (LLVM IR → Lean), for all 64-bit hashes,
all 256 tags, all bucket indices and all hashpowers the library can address (`hp < 64`,
resp. `hp + 1 < 64` for the doubling facts, i.e. hashpowers 0..62).
The stripe facts are also stated for every power-of-two stripe count.
-/
namespace Cuckoo.Props.C13
open Cuckoo

/-- both candidate buckets lie inside the table (this and `alt_in_range`) -/
theorem index_in_range (hp h : BitVec 64) (hhp : hp.toNat < 64) :
    (Gen.index_hash hp h).toNat < 2 ^ hp.toNat := by
  rw [Link.index_hash_toNat hp h hhp]; exact Spec.indexHash_lt _ _

theorem alt_in_range (hp : BitVec 64) (p : BitVec 8) (i : BitVec 64) (hhp : hp.toNat < 64) :
    (Gen.alt_index hp p i).toNat < 2 ^ hp.toNat := by
  rw [Link.alt_index_toNat hp p i hhp]; exact Spec.altIndex_lt _ _ _

/-- each candidate is the other's alternate -/
theorem alt_involution (hp : BitVec 64) (p : BitVec 8) (i : BitVec 64) (hhp : hp.toNat < 64)
    (hi : i.toNat < 2 ^ hp.toNat) :
    Gen.alt_index hp p (Gen.alt_index hp p i) = i := by
  apply BitVec.eq_of_toNat_eq
  rw [Link.alt_index_toNat _ _ _ hhp, Link.alt_index_toNat _ _ _ hhp, Spec.altIndex_invol, Nat.mod_eq_of_lt hi]

/-- a stored key is reachable from its hash alone: whichever candidate bucket holds it, that bucket is
one of the two computed from the hash, and the alternate of the second is the first -/
theorem candidates_symmetric (hp h : BitVec 64) (hhp : hp.toNat < 64) :
    let i1 := Gen.index_hash hp h
    let i2 := Gen.alt_index hp (Gen.partial_key h) i1
    Gen.alt_index hp (Gen.partial_key h) i2 = i1 ∧ i1.toNat < 2 ^ hp.toNat ∧ i2.toNat < 2 ^ hp.toNat := by
  intro i1 i2
  exact ⟨alt_involution hp _ i1 hhp (index_in_range hp h hhp), index_in_range hp h hhp,
    alt_in_range hp _ i1 hhp⟩

/-- doubling: the first candidate keeps its index or moves up by exactly the old bucket count -/
theorem index_double (hp h : BitVec 64) (hhp : hp.toNat + 1 < 64) :
    (Gen.index_hash (hp + 1#64) h).toNat = (Gen.index_hash hp h).toNat ∨
    (Gen.index_hash (hp + 1#64) h).toNat = (Gen.index_hash hp h).toNat + 2 ^ hp.toNat := by
  have h1 := Link.succ_toNat hp (Nat.lt_trans hhp (by decide))
  rw [Link.index_hash_toNat _ _ (h1 ▸ hhp), Link.index_hash_toNat _ _ (Nat.lt_of_succ_lt hhp), h1]
  exact Spec.indexHash_double _ _

/-- doubling: the alternate in the doubled table is the old alternate of the reduced index, or that plus
the old bucket count -/
theorem alt_double (hp : BitVec 64) (p : BitVec 8) (i : BitVec 64) (hhp : hp.toNat + 1 < 64) :
    (Gen.alt_index (hp + 1#64) p i).toNat = (Gen.alt_index hp p (i &&& Gen.hashmask hp)).toNat ∨
    (Gen.alt_index (hp + 1#64) p i).toNat = (Gen.alt_index hp p (i &&& Gen.hashmask hp)).toNat + 2 ^ hp.toNat := by
  have h1 := Link.succ_toNat hp (Nat.lt_trans hhp (by decide))
  have h := Nat.lt_of_succ_lt hhp
  rw [Link.alt_index_toNat _ _ _ (h1 ▸ hhp), Link.alt_index_toNat _ _ _ h, h1, Link.and_hashmask_toNat _ _ h]
  exact Spec.altIndex_double _ _ _

/-- hence a key's pair of candidates in the doubled table is its old pair, each either kept or moved up -/
theorem candidates_double (hp h : BitVec 64) (hhp : hp.toNat + 1 < 64) :
    let p := Gen.partial_key h
    let i1 := Gen.index_hash hp h
    let i1' := Gen.index_hash (hp + 1#64) h
    (Gen.alt_index (hp + 1#64) p i1').toNat = (Gen.alt_index hp p i1).toNat ∨
    (Gen.alt_index (hp + 1#64) p i1').toNat = (Gen.alt_index hp p i1).toNat + 2 ^ hp.toNat := by
  intro p i1 i1'
  have h1 := Link.succ_toNat hp (Nat.lt_trans hhp (by decide))
  have h := Nat.lt_of_succ_lt hhp
  have e : i1' &&& Gen.hashmask hp = i1 := BitVec.eq_of_toNat_eq <| by
    rw [Link.and_hashmask_toNat _ _ h, Link.index_hash_toNat _ _ (h1 ▸ hhp), Link.index_hash_toNat _ _ h, h1]
    exact Spec.indexHash_double_mod _ _
  exact e ▸ alt_double hp p i1' hhp

/-- the stripe limit is a power of two (so masking is reduction modulo the limit) -/
theorem maxLocks_pow2 : Gen.Consts.kMaxNumLocks = 2 ^ 16 := by decide

theorem lock_ind_in_range (i : BitVec 64) : (Gen.lock_ind i).toNat < Gen.Consts.kMaxNumLocks := by
  rw [Link.lock_ind_toNat]; exact Spec.lockInd_lt _ _ (by decide)

/-- a bucket that moves up by the old bucket count stays under the same lock stripe, whenever the old
table has at least as many buckets as there are stripes (the only case with deferred migration) -/
theorem stripe_stable (hp i : BitVec 64) (hhp : hp.toNat + 1 < 64) (hM : 16 ≤ hp.toNat)
    (hi : i.toNat < 2 ^ hp.toNat) :
    Gen.lock_ind (i + Gen.hashsize hp) = Gen.lock_ind i :=
  Link.lock_ind_add_hashsize hp i (Nat.lt_of_succ_lt hhp) hM

/-- the same for every power-of-two stripe count `2^m ≤ 2^hp` -/
theorem stripe_stable_all (m hp i : Nat) (h : m ≤ hp) :
    Spec.lockInd (2 ^ m) (i + 2 ^ hp) = Spec.lockInd (2 ^ m) i := Spec.lockInd_stable m hp i h

/-- with fewer buckets than stripes every bucket has its own stripe -/
theorem stripe_identity (M i : Nat) (h : i < M) : Spec.lockInd M i = i := Nat.mod_eq_of_lt h

/-- the partial tag is a function of the hash alone (its generated signature has no table-size
argument) and it fits in 8 bits -/
theorem partial_key_width_free (h : BitVec 64) :
    (Gen.partial_key h).toNat = Spec.partialKey h.toNat ∧ (Gen.partial_key h).toNat < 256 :=
  ⟨Link.partial_key_toNat h, (Gen.partial_key h).isLt⟩

/-- the multiplier the tag selects for `alt_index` is odd, hence non-zero -/
theorem tag_multiplier_nonzero (p : BitVec 8) :
    ((BitVec.setWidth 64 p + 1#64) * 14313749767032793493#64) ≠ 0#64 := by
  intro h
  have h0 := congrArg BitVec.toNat h
  rw [Link.tagMul_eq] at h0
  exact Spec.tagMul_ne_zero _ (Nat.lt_trans (Nat.succ_lt_succ p.isLt) (by decide)) h0

/-- the smallest hashpower that holds the request, for every slots-per-bucket value (specification level;
check K1 ties each instantiation to it) -/
theorem reserve_calc_minimal_all (S n : Nat) (hS : 0 < S) (hn : (n + S - 1) / S ≤ 2 ^ 66) :
    n ≤ 2 ^ Spec.reserveCalc S n * S ∧ ∀ c, c < Spec.reserveCalc S n → 2 ^ c * S < n :=
  ⟨Spec.reserveCalc_enough S n hS hn, fun c hc => ((Spec.lt_reserveCalc_iff n c hS).mp hc).2⟩

/-- `reserve_calc` returns the smallest hashpower that holds the request -/
theorem reserve_calc_minimal (n : BitVec 64) (hn : n.toNat ≤ 2 ^ 62) :
    ∃ r, Gen.reserve_calc n = some r ∧
      n.toNat ≤ 2 ^ r.toNat * Gen.Consts.DEFAULT_SLOT_PER_BUCKET ∧
      ∀ c, c < r.toNat → 2 ^ c * Gen.Consts.DEFAULT_SLOT_PER_BUCKET < n.toNat :=
  Link.reserve_calc_minimal n (Nat.lt_of_le_of_lt (Nat.add_le_add_right hn 4) (by decide))

/-! Non-vacuity: the hypotheses are met by concrete non-trivial values. -/
example : (Gen.index_hash 10#64 0xdeadbeefcafe#64).toNat = 0xdeadbeefcafe % 1024 := by decide
example : Gen.alt_index 10#64 0x5a#8 (Gen.alt_index 10#64 0x5a#8 777#64) = 777#64 := by decide
example : (10#64 : BitVec 64).toNat + 1 < 64 ∧ (777#64 : BitVec 64).toNat < 2 ^ (10#64 : BitVec 64).toNat := by decide
example : Gen.reserve_calc 1000#64 = some 8#64 := by decide

end Cuckoo.Props.C13
