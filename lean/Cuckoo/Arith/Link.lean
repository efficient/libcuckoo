import Cuckoo.Gen.Arith
import Cuckoo.Gen.Consts
import Cuckoo.Arith.Spec
import Cuckoo.Arith.Lemmas
/-!
Link lemmas: each function generated from the C++ source equals the Nat-level
specification used by the model (on hashpowers below 64, where the C++ shift is defined).
Only these lemmas depend on the shape of the generated code.
-/
namespace Cuckoo.Link
open Cuckoo

theorem succ_toNat (x : BitVec 64) (h : x.toNat + 1 < 2 ^ 64) : (x + 1#64).toNat = x.toNat + 1 :=
  BitVec.toNat_add_of_lt h

theorem hashsize_toNat (hp : BitVec 64) (h : hp.toNat < 64) :
    (Gen.hashsize hp).toNat = Spec.hashsize hp.toNat := by
  unfold Gen.hashsize Spec.hashsize
  rw [BitVec.shiftLeft_eq', BitVec.toNat_shiftLeft, Nat.shiftLeft_eq, BitVec.toNat_ofNat,
    Nat.mod_eq_of_lt (by decide : 1 < 2 ^ 64), Nat.one_mul,
    Nat.mod_eq_of_lt (Nat.pow_lt_pow_right (by decide) h)]

theorem hashmask_toNat (hp : BitVec 64) (h : hp.toNat < 64) :
    (Gen.hashmask hp).toNat = Spec.hashmask hp.toNat := by
  unfold Gen.hashmask Spec.hashmask
  have hs := hashsize_toNat hp h
  rw [BitVec.toNat_sub_of_le, hs]; · rfl
  rw [BitVec.le_def, hs]; exact Nat.two_pow_pos _

theorem and_hashmask_toNat (hp x : BitVec 64) (h : hp.toNat < 64) :
    (x &&& Gen.hashmask hp).toNat = x.toNat % 2 ^ hp.toNat := by
  rw [BitVec.toNat_and, hashmask_toNat hp h, Spec.hashmask, Nat.and_two_pow_sub_one_eq_mod]

theorem index_hash_toNat (hp hv : BitVec 64) (h : hp.toNat < 64) :
    (Gen.index_hash hp hv).toNat = Spec.indexHash hp.toNat hv.toNat :=
  and_hashmask_toNat hp hv h

theorem tagMul_eq (p : BitVec 8) :
    ((BitVec.setWidth 64 p + 1#64) * 14313749767032793493#64).toNat = Spec.tagMul p.toNat := by
  have hp : p.toNat % 2 ^ 64 + 1 < 2 ^ 64 :=
    Nat.lt_of_le_of_lt (Nat.succ_le_succ (Nat.mod_le _ _)) (Nat.lt_trans (Nat.succ_lt_succ p.isLt) (by decide))
  rw [BitVec.toNat_mul, succ_toNat _ (by rwa [BitVec.toNat_setWidth]), BitVec.toNat_setWidth,
    Nat.mod_eq_of_lt (Nat.lt_trans p.isLt (by decide))]
  rfl

theorem alt_index_toNat (hp : BitVec 64) (p : BitVec 8) (i : BitVec 64) (h : hp.toNat < 64) :
    (Gen.alt_index hp p i).toNat = Spec.altIndex hp.toNat p.toNat i.toNat := by
  unfold Gen.alt_index Spec.altIndex
  rw [and_hashmask_toNat _ _ h, BitVec.toNat_xor, tagMul_eq]

/-- `lock_ind` masks with `kMaxNumLocks - 1`, i.e. reduces modulo the (power-of-two) stripe limit -/
theorem lock_ind_toNat (i : BitVec 64) :
    (Gen.lock_ind i).toNat = Spec.lockInd Gen.Consts.kMaxNumLocks i.toNat :=
  (BitVec.toNat_and ..).trans (Nat.and_two_pow_sub_one_eq_mod i.toNat 16)

theorem lock_ind_add_hashsize (hp i : BitVec 64) (hhp : hp.toNat < 64) (hM : 16 ≤ hp.toNat) :
    Gen.lock_ind (i + Gen.hashsize hp) = Gen.lock_ind i := by
  apply BitVec.eq_of_toNat_eq
  -- `toNat_add` reduces modulo `2^64`: `2^16 ∣ 2^64`, so the stripe does not see it
  rw [lock_ind_toNat, lock_ind_toNat, show Gen.Consts.kMaxNumLocks = 2 ^ 16 by decide, BitVec.toNat_add,
    Spec.lockInd_mod 16 64 _ (by decide), hashsize_toNat _ hhp, Spec.hashsize]
  exact Spec.lockInd_stable 16 _ _ hM

/-- `partial_key` halves the hash three times by xor; pushing the truncations and shifts through the
xors leaves the eight bytes of the specification, up to their order -/
theorem partial_key_toNat (h : BitVec 64) :
    (Gen.partial_key h).toNat = Spec.partialKey h.toNat := by
  have msb (x : BitVec 16) : (BitVec.setWidth 32 x).msb = false := by simp [BitVec.msb_setWidth]
  unfold Gen.partial_key Spec.partialKey
  simp only [BitVec.sshiftRight_eq', BitVec.toNat_sshiftRight_of_msb_false (msb _), BitVec.toNat_setWidth,
    BitVec.toNat_xor, BitVec.ushiftRight_eq', BitVec.toNat_ushiftRight, BitVec.reduceToNat]
  generalize h.toNat = x
  simp only [Nat.xor_mod_two_pow, Nat.shiftRight_xor_distrib, Spec.mod_pow_shiftRight, Spec.mod_pow_mod_pow,
    ← Nat.shiftRight_add, Nat.reduceSub, Nat.reduceAdd, Nat.min_def, Nat.reduceLeDiff, ↓reduceIte,
    show (256 : Nat) = 2 ^ 8 from rfl]
  ac_rfl

theorem slot_per_bucket_eq : Gen.slot_per_bucket.toNat = Gen.Consts.DEFAULT_SLOT_PER_BUCKET := by decide

theorem reserve_loop {a0 : BitVec 64} {v2 : BitVec 16} {v3 v4 v5 : BitVec 64} {v6 : BitVec 16} {v7 : BitVec 64}
    (need : BitVec 64) (hneed : need.toNat ≤ 2 ^ 63) (fuel : Nat) (p : BitVec 64)
    (hp : p.toNat < 64) (hf : 64 ≤ p.toNat + fuel) :
    ∃ r, Gen.reserve_calc.loop fuel a0 v2 v3 v4 v5 v6 v7 need p = some r ∧
      r.toNat = Spec.log2ceilFrom need.toNat fuel p.toNat := by
  induction fuel generalizing p with
  | zero => exact absurd hf (Nat.not_le_of_lt hp)
  | succ f ih =>
    have hsh : ((1#64) <<< p).toNat = 2 ^ p.toNat := hashsize_toNat p hp
    unfold Gen.reserve_calc.loop Spec.log2ceilFrom
    simp only [BitVec.ult, hsh]
    by_cases hlt : 2 ^ p.toNat < need.toNat
    · have h63 : p.toNat < 63 := (Nat.pow_lt_pow_iff_right (by decide)).mp (Nat.lt_of_lt_of_le hlt hneed)
      have hp1 : (p + 1#64).toNat = p.toNat + 1 :=
        succ_toNat p (Nat.lt_trans (Nat.succ_lt_succ hp) (by decide))
      simp only [hlt, decide_true, BitVec.ofBool_true, ↓reduceIte]
      rw [← hp1]
      exact ih (p + 1#64) (by omega) (by omega)
    · simp [hlt]

/-- `reserve_calc` (instantiated with the default slots per bucket) terminates within its fuel and
computes the specification, for every request whose rounding-up does not overflow -/
theorem reserve_calc_toNat (n : BitVec 64) (hn : n.toNat + 4 < 2 ^ 64) :
    ∃ r, Gen.reserve_calc n = some r ∧
      r.toNat = Spec.reserveCalc Gen.Consts.DEFAULT_SLOT_PER_BUCKET n.toNat := by
  have hS : (BitVec.setWidth 64 Gen.slot_per_bucket).toNat = 4 := rfl
  have hadd : (n + BitVec.setWidth 64 Gen.slot_per_bucket).toNat = n.toNat + 4 := by
    have h : n.toNat + (BitVec.setWidth 64 Gen.slot_per_bucket).toNat < 2 ^ 64 := by rw [hS]; exact hn
    rw [BitVec.toNat_add_of_lt h, hS]
  have hneed : ((n + BitVec.setWidth 64 Gen.slot_per_bucket - 1#64) /
      BitVec.setWidth 64 Gen.slot_per_bucket).toNat = (n.toNat + 4 - 1) / 4 := by
    rw [BitVec.toNat_udiv, BitVec.toNat_sub_of_le (by rw [BitVec.le_def, hadd]; exact Nat.le_add_left _ _),
      hadd, hS]
    rfl
  have hle : (n.toNat + 4 - 1) / 4 ≤ 2 ^ 63 :=
    Nat.div_le_of_le_mul (Nat.le_trans (Nat.sub_le _ _) (Nat.le_trans (Nat.le_of_lt hn) (by decide)))
  refine (reserve_loop _ (hneed ▸ hle) 66 (0#64) (by decide) (by decide)).imp fun r h => ⟨h.1, h.2.trans ?_⟩
  rw [hneed]; rfl

theorem reserve_calc_minimal (n : BitVec 64) (hn : n.toNat + 4 < 2 ^ 64) :
    ∃ r, Gen.reserve_calc n = some r ∧
      n.toNat ≤ 2 ^ r.toNat * Gen.Consts.DEFAULT_SLOT_PER_BUCKET ∧
      ∀ c, c < r.toNat → 2 ^ c * Gen.Consts.DEFAULT_SLOT_PER_BUCKET < n.toNat := by
  obtain ⟨r, h1, h2⟩ := reserve_calc_toNat n hn
  have hq : (n.toNat + Gen.Consts.DEFAULT_SLOT_PER_BUCKET - 1) / Gen.Consts.DEFAULT_SLOT_PER_BUCKET ≤ 2 ^ 66 :=
    Nat.le_trans (Nat.div_le_self _ _) (Nat.le_trans (Nat.sub_le _ _) (Nat.le_trans (Nat.le_of_lt hn) (by decide)))
  exact ⟨r, h1, h2 ▸ ⟨Spec.reserveCalc_enough _ _ (by decide) hq,
    fun c hc => ((Spec.lt_reserveCalc_iff _ c (by decide)).mp hc).2⟩⟩

end Cuckoo.Link

