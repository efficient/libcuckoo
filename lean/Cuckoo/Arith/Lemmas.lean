import Cuckoo.Arith.Spec
/-!
Facts about the Nat-level index arithmetic, for every hash value, tag, bucket index
and hashpower (no width bound is needed at this level, `tagMul_ne_zero` apart).
-/
namespace Cuckoo.Spec

theorem min_two_pow (a b : Nat) : min (2 ^ a) (2 ^ b) = 2 ^ (min a b) := by
  rcases Nat.le_total a b with h | h
  · rw [Nat.min_eq_left h, Nat.min_eq_left (Nat.pow_le_pow_right (by decide) h)]
  · rw [Nat.min_eq_right h, Nat.min_eq_right (Nat.pow_le_pow_right (by decide) h)]

theorem mod_pow_mod_pow_of_le (x : Nat) {a b : Nat} (h : b ≤ a) : x % 2 ^ a % 2 ^ b = x % 2 ^ b :=
  Nat.mod_mod_of_dvd x (Nat.pow_dvd_pow 2 h)

theorem mod_pow_mod_pow (x a b : Nat) : x % 2 ^ a % 2 ^ b = x % 2 ^ min a b := by
  apply Nat.eq_of_testBit_eq; intro j
  simp only [Nat.testBit_mod_two_pow, Nat.lt_min, Bool.decide_and, Bool.and_assoc, Bool.and_left_comm]

theorem mod_pow_shiftRight (x a k : Nat) : (x % 2 ^ a) >>> k = (x >>> k) % 2 ^ (a - k) := by
  apply Nat.eq_of_testBit_eq; intro j
  simp only [Nat.testBit_shiftRight, Nat.testBit_mod_two_pow]
  congr 2
  exact propext (by omega)

theorem xor_mod_left (i c n : Nat) : ((i % 2 ^ n) ^^^ c) % 2 ^ n = (i ^^^ c) % 2 ^ n := by
  rw [Nat.xor_mod_two_pow, Nat.mod_mod, ← Nat.xor_mod_two_pow]

theorem mod_pow_succ_cases (x n : Nat) :
    x % 2 ^ (n + 1) = x % 2 ^ n ∨ x % 2 ^ (n + 1) = x % 2 ^ n + 2 ^ n := by
  rw [Nat.mod_pow_succ]
  rcases Nat.mod_two_eq_zero_or_one (x / 2 ^ n) with h | h <;> rw [h]
  · exact .inl (by rw [Nat.mul_zero, Nat.add_zero])
  · exact .inr (by rw [Nat.mul_one])

theorem indexHash_lt (hp h : Nat) : indexHash hp h < 2 ^ hp :=
  Nat.mod_lt _ (Nat.two_pow_pos hp)

theorem altIndex_lt (hp tag i : Nat) : altIndex hp tag i < 2 ^ hp :=
  Nat.mod_lt _ (Nat.two_pow_pos hp)

theorem altIndex_mod (hp tag i : Nat) : altIndex hp tag (i % 2 ^ hp) = altIndex hp tag i :=
  xor_mod_left i _ hp

theorem altIndex_invol (hp tag i : Nat) : altIndex hp tag (altIndex hp tag i) = i % 2 ^ hp := by
  unfold altIndex
  rw [xor_mod_left, Nat.xor_assoc, Nat.xor_self, Nat.xor_zero]

theorem indexHash_double (hp h : Nat) :
    indexHash (hp + 1) h = indexHash hp h ∨ indexHash (hp + 1) h = indexHash hp h + 2 ^ hp :=
  mod_pow_succ_cases h hp

theorem indexHash_double_mod (hp h : Nat) : indexHash (hp + 1) h % 2 ^ hp = indexHash hp h :=
  mod_pow_mod_pow_of_le h (Nat.le_succ hp)

theorem altIndex_double_mod (hp tag i : Nat) :
    altIndex (hp + 1) tag i % 2 ^ hp = altIndex hp tag (i % 2 ^ hp) :=
  (mod_pow_mod_pow_of_le _ (Nat.le_succ hp)).trans (altIndex_mod hp tag i).symm

theorem altIndex_double (hp tag i : Nat) :
    altIndex (hp + 1) tag i = altIndex hp tag (i % 2 ^ hp) ∨
    altIndex (hp + 1) tag i = altIndex hp tag (i % 2 ^ hp) + 2 ^ hp := by
  rw [altIndex_mod]
  exact mod_pow_succ_cases _ hp

theorem lockInd_stable (m hp i : Nat) (h : m ≤ hp) : lockInd (2 ^ m) (i + 2 ^ hp) = lockInd (2 ^ m) i := by
  obtain ⟨k, hk⟩ := Nat.pow_dvd_pow 2 h
  rw [lockInd, hk, Nat.add_mul_mod_self_left, lockInd]

theorem lockInd_lt (M i : Nat) (h : 0 < M) : lockInd M i < M := Nat.mod_lt _ h

theorem lockInd_mod (m hp i : Nat) (h : m ≤ hp) : lockInd (2 ^ m) (i % 2 ^ hp) = lockInd (2 ^ m) i :=
  mod_pow_mod_pow_of_le i h

/-- the multiplier is odd, so its multiples by anything below `2^64` are non-zero modulo `2^64` -/
theorem tagMul_ne_zero (tag : Nat) (h : tag + 1 < 2 ^ 64) : tagMul tag ≠ 0 := fun h0 =>
  have hc : Nat.Coprime (2 ^ 64) altMul := Nat.Coprime.pow_left 64 (by decide)
  Nat.not_le_of_lt h (Nat.le_of_dvd (Nat.succ_pos tag) (hc.dvd_of_dvd_mul_right (Nat.dvd_of_mod_eq_zero h0)))

theorem partialKey_lt (h : Nat) : partialKey h < 256 := by
  unfold partialKey
  simp only [show (256 : Nat) = 2 ^ 8 from rfl, ← Nat.xor_mod_two_pow]
  exact Nat.mod_lt _ (Nat.two_pow_pos 8)

theorem log2ceilFrom_ge (need fuel b : Nat) : b ≤ log2ceilFrom need fuel b := by
  induction fuel generalizing b with
  | zero => exact Nat.le_refl b
  | succ f ih =>
    unfold log2ceilFrom
    split
    · exact Nat.le_of_succ_le (ih (b + 1))
    · exact Nat.le_refl b

theorem lt_log2ceilFrom_iff (need fuel b c : Nat) (hbc : b ≤ c) :
    c < log2ceilFrom need fuel b ↔ c < b + fuel ∧ 2 ^ c < need := by
  induction fuel generalizing b with
  | zero => exact ⟨fun h => absurd h (Nat.not_lt.mpr hbc), fun h => absurd h.1 (Nat.not_lt.mpr hbc)⟩
  | succ f ih =>
    unfold log2ceilFrom
    split
    · rename_i hlt
      rcases Nat.eq_or_lt_of_le hbc with rfl | hb'
      · exact ⟨fun _ => ⟨Nat.lt_add_of_pos_right (Nat.succ_pos f), hlt⟩, fun _ => log2ceilFrom_ge need f (b + 1)⟩
      · rw [ih (b + 1) hb', Nat.add_right_comm, Nat.add_assoc]
    · rename_i hge
      exact ⟨fun h => absurd h (Nat.not_lt.mpr hbc),
        fun h => absurd (Nat.lt_of_le_of_lt (Nat.pow_le_pow_right (by decide) hbc) h.2) hge⟩

theorem lt_ceilDiv_iff {S : Nat} (n k : Nat) (hS : 0 < S) : k < (n + S - 1) / S ↔ k * S < n := by
  rw [Nat.lt_div_iff_mul_lt hS, Nat.add_sub_assoc hS, Nat.add_sub_cancel]

theorem lt_reserveCalc_iff {S : Nat} (n c : Nat) (hS : 0 < S) : c < reserveCalc S n ↔ c < 66 ∧ 2 ^ c * S < n := by
  rw [reserveCalc, lt_log2ceilFrom_iff _ _ _ _ (Nat.zero_le c), Nat.zero_add, lt_ceilDiv_iff n _ hS]

theorem reserveCalc_le_66 (S n : Nat) : reserveCalc S n ≤ 66 :=
  Nat.le_of_not_lt fun h => Nat.lt_irrefl 66 (Nat.zero_add 66 ▸ ((lt_log2ceilFrom_iff _ 66 0 66 (Nat.zero_le _)).mp h).1)

theorem reserveCalc_enough (S n : Nat) (hS : 0 < S) (hn : (n + S - 1) / S ≤ 2 ^ 66) :
    n ≤ 2 ^ reserveCalc S n * S :=
  Nat.le_of_not_lt fun hlt =>
    -- the search did not pass its own result, so it stopped for want of fuel: the result is 66
    have h66 : 66 ≤ reserveCalc S n := Nat.le_of_not_lt fun h =>
      Nat.lt_irrefl _ ((lt_reserveCalc_iff n _ hS).mpr ⟨h, hlt⟩)
    Nat.lt_irrefl _ (Nat.lt_of_lt_of_le ((lt_ceilDiv_iff n _ hS).mpr hlt)
      (Nat.le_trans hn (Nat.pow_le_pow_right (by decide) h66)))

/-- a table created for `2 ^ n` buckets has hashpower `min n 66`: the search of `reserve_calc` stops after 66 steps -/
theorem reserveCalc_pow (S n : Nat) (hS : 0 < S) : reserveCalc S (2 ^ n * S) = min n 66 := by
  have below (c : Nat) : c < reserveCalc S (2 ^ n * S) ↔ c < min n 66 := by
    rw [lt_reserveCalc_iff _ c hS, Nat.mul_lt_mul_right hS, Nat.pow_lt_pow_iff_right (by decide), Nat.lt_min, And.comm]
  exact Nat.le_antisymm (Nat.le_of_not_lt fun h => Nat.lt_irrefl _ ((below _).mp h))
    (Nat.le_of_not_lt fun h => Nat.lt_irrefl _ ((below _).mpr h))

end Cuckoo.Spec
